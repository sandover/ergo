/-
  ErgoModel.Program — the system-call program of one ergo process on the store's files, as strace reports it (T3), and the
  shape every program must have for the process model (ErgoModel.Proc) to be an abstraction of it.

  A writer's program is:   open(lock) · flock(EX|NB) · [ body ] · flock(UN) · close(lock)
  where the body, entirely inside the lock section, reads the log (at least once, before any write) and then either
    * appends: open(log, O_APPEND) · read(log)* (tail check) · exactly one write(log) · close,           or
    * rewrites: open(tmp) · write(tmp)+ · fsync(tmp) · close(tmp) · rename(tmp → log) · open(dir) · fsync(dir) · close(dir),  or
    * repairs a torn tail by a rewrite and then appends (both of the above, in that order),               or
    * writes nothing (the decision was an error, or there was nothing to do);
  a refused lock (`flock` = EWOULDBLOCK) is followed by no read and no write at all; a reader never calls flock,
  opens the log once, read-only, and only reads.
-/
namespace Ergo.Program

inductive Obj where | lock | log | tmp | dir
  deriving DecidableEq, Repr, Inhabited

inductive Call where
  | openRO (o : Obj)            -- O_RDONLY (a missing lock file is created by an open O_RDONLY|O_CREAT)
  | openAppend                  -- open(log, O_APPEND|O_CREAT|O_RDWR)
  | openTmp                     -- open(tmp, O_CREAT|O_TRUNC|O_WRONLY)
  | flockEx (ok : Bool)         -- flock(LOCK_EX|LOCK_NB); ok = false: EWOULDBLOCK
  | flockUn
  | read (o : Obj)
  | write (o : Obj)
  | fsync (o : Obj)
  | rename                      -- rename(tmp, log)
  | renameLock                  -- rename(anything, lock): the name of the lock file given to another file
  | truncate (o : Obj)          -- ftruncate
  | unlink (o : Obj)
  | close (o : Obj)
  | openBad                     -- an open that breaks the file discipline of ErgoModel.Files: the temporary file without O_TRUNC (a stale one
                                -- would shine through), or the log opened for writing without O_APPEND (a write would land at the descriptor's offset)
  | other                       -- anything else on the store's files
  deriving DecidableEq, Repr, Inhabited

/-- does this call change the log (its bytes or which file the name points to)? -/
def mutatesLog : Call → Bool
  | .write .log | .rename | .truncate .log | .unlink .log => true
  | _ => false

/-- does this call give the lock's *name* to another file, or take it away?  Two processes are excluded from one another only as long as
    `.ergo/lock` names one and the same file for both: a missing lock file may be created (`open … O_CREAT`), never replaced or removed -/
def mutatesLock : Call → Bool
  | .renameLock | .unlink .lock | .truncate .lock => true
  | _ => false

/-- an open without the flag the results of `ErgoModel.Files` depend on (`FilesThm.rewrite_without_trunc_keeps_stale_bytes`,
    `appendUnterminated_without_append_clobbers`) -/
def undisciplined : Call → Bool
  | .openBad => true
  | _ => false

/-- neither the lock's name nor the open flags are tampered with -/
def breaksDiscipline (c : Call) : Bool := mutatesLock c || undisciplined c

/-- does this call look at the log's content? -/
def readsLog : Call → Bool
  | .read .log => true
  | _ => false

def isLock : Call → Bool
  | .flockEx _ => true
  | _ => false

/-- the calls strictly between the successful lock and the unlock, and what comes before / after -/
structure Split where
  before : List Call
  inside : List Call
  after  : List Call
  deriving Repr

/-- split a program at its first `flock(EX)=0` and the first `flock(UN)` after it -/
def split (p : List Call) : Option Split :=
  match p.span (fun c => c != .flockEx true) with
  | (pre, _ :: rest) =>
    (match rest.span (fun c => c != .flockUn) with
     | (ins, _ :: post) => some ⟨pre, ins, post⟩
     | _ => none)
  | _ => none

/-- the number of writes to the log among these calls (`bodyOK`: exactly one, or none) -/
def logWrites (cs : List Call) : Nat := (cs.filter (· == .write .log)).length

/-- the lock section's body: reads before anything that changes the log; at most one write to the live log; a rename only after the
    temporary file was written and synced; no in-place truncation (that is allowed only after a failed write, which these programs are not) -/
def bodyOK (ins : List Call) : Bool :=
  -- something is read before the first mutation, if there is a mutation
  (match ins.span (fun c => !mutatesLog c) with
   | (pre, _ :: _) => pre.any readsLog
   | (_, []) => true) &&
  logWrites ins ≤ 1 &&
  !ins.contains (.truncate .log) && !ins.contains (.unlink .log) &&
  -- every rename is preceded by write(tmp) and fsync(tmp)
  (match ins.span (· != .rename) with
   | (pre, _ :: _) => pre.contains (.write .tmp) && pre.contains (.fsync .tmp)
   | (_, []) => true) &&
  !ins.any isLock && !ins.contains .flockUn

/-- a writer that got the lock -/
def writerOK (p : List Call) : Bool :=
  !p.any breaksDiscipline &&
  match split p with
  | none => false
  | some s =>
    !s.before.any (fun c => mutatesLog c || readsLog c || c == .flockUn || isLock c) &&
    bodyOK s.inside &&
    !s.after.any (fun c => mutatesLog c || isLock c || c == .flockUn || c == .write .tmp)

/-- a writer that found the lock taken: it neither reads nor changes anything -/
def busyOK (p : List Call) : Bool :=
  !p.any breaksDiscipline && p.contains (.flockEx false) && !p.contains (.flockEx true) &&
  !p.any (fun c => mutatesLog c || readsLog c || c == .write .tmp || c == .flockUn)

/-- a reader: no lock call at all, the log opened at most once read-only, nothing changed -/
def readerOK (p : List Call) : Bool :=
  !p.any breaksDiscipline && !p.any isLock && !p.contains .flockUn &&
  (p.filter (· == .openRO .log)).length ≤ 1 && !p.contains .openAppend && !p.contains .openTmp &&
  !p.any (fun c => mutatesLog c || c == .write .tmp || c == .write .lock)

/-! ### the abstraction to the process model's steps -/
inductive Abs where
  | lockOk | lockBusy | read | write | noWrite | unlock
  deriving DecidableEq, Repr

/-- what steps of the process model, as `Abs` tokens named after `Proc.Step`'s constructors, a writer's program amounts to -/
def abstract (p : List Call) : List Abs :=
  if p.contains (.flockEx true) then
    match split p with
    | some s =>
      [.lockOk] ++ (if s.inside.any readsLog then [.read] else []) ++
        (if s.inside.any mutatesLog then [.write] else [.noWrite]) ++ [.unlock]
    | none => [.lockOk]
  else if p.contains (.flockEx false) then [.lockBusy] else []

end Ergo.Program
