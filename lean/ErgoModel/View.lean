/-
  ErgoModel.View — what the commands *say*: the JSON values of `list`, `show` and of every mutating command
  (output.go, RunList/RunShow/RunSet/RunClaim/RunClaimOldestReady/RunSequence/RunPrune/RunCompact,
  createTaskWithDir's createOutput, RunPlan's planOutput).  Values are structures; the JSON text is the
  harness's business (key order and escaping are `encoding/json`'s, modelled and proved in Json.lean for strings).

  A mutating command's reply is computed from what the real code computes it from:
    * `new`    — the payload it wrote, with `state` taken from a replay of *its own events only*;
    * `set`, `claim <id>` — a fresh read of the log after the write, inside the lock section;
    * `claim` (oldest ready) — the task chosen inside the lock section and the section's clock reading;
    * `sequence`, `prune`, `compact`, `plan` — the request / the section's decision.
-/
import ErgoModel.Exec
import ErgoModel.Render
namespace Ergo

/-! ### `list --json` -/
structure ListItem where
  isEpic     : Bool
  id         : Id
  epicId     : Id
  st         : St
  claimedBy  : String
  title      : String
  ready      : Bool
  blocked    : Bool
  hasResults : Bool
  deriving DecidableEq, Repr, Inhabited

def listItem (g : Graph) (t : Task) : ListItem :=
  { isEpic := t.isEpic, id := t.id, epicId := t.epicId, st := t.st, claimedBy := t.claimedBy, title := t.title,
    ready := isReady g t, blocked := isBlocked g t, hasResults := !t.results.isEmpty }

/-- `listTasks`: every item (epics too) of the epic filter, optionally ready only, by id -/
def listTasks (g : Graph) (epicId : Id) (readyOnly : Bool) : List Task :=
  (g.tasks.filter fun t => (epicId == "" || t.epicId == epicId) && (!readyOnly || isReady g t)).mergeSort taskIdLe

/-- `sortByCreatedAt` (ties by id) -/
def createdLe (a b : Task) : Bool := decide (a.createdAt < b.createdAt) || (a.createdAt == b.createdAt && strLe a.id b.id)

structure ListOpts where
  epicId    : Id := ""
  readyOnly : Bool := false
  showAll   : Bool := false
  showEpics : Bool := false
  deriving DecidableEq, Repr, Inhabited

/-- the array `list --json` prints -/
def listJson (g : Graph) (o : ListOpts) : List ListItem :=
  if o.showEpics then
    ((g.tasks.filter fun t => t.isEpic && (o.epicId == "" || t.epicId == o.epicId)).mergeSort createdLe).map (listItem g)
  else
    let ts := (listTasks g o.epicId o.readyOnly).filter fun t => !t.isEpic
    let ts := if !o.showAll && !o.readyOnly then ts.filter fun t => !t.st.closed else ts
    ts.map (listItem g)

/-! ### `show --json` -/
structure ShowItem where
  id        : Id
  uuid      : String
  epicId    : Id
  st        : St
  claimedBy : String
  claimedAt : Time          -- 0 = printed as ""
  createdAt : Time
  updatedAt : Time
  deps      : List Id
  rdeps     : List Id
  title     : String
  body      : String
  results   : List ResultRec
  deriving DecidableEq, Repr, Inhabited

/-- `claimedAtForTask` -/
def claimedAt (t : Task) : Time := if t.claimedBy == "" then 0 else t.lastClaim

def showItem (g : Graph) (t : Task) : ShowItem :=
  { id := t.id, uuid := t.uuid, epicId := t.epicId, st := t.st, claimedBy := t.claimedBy, claimedAt := claimedAt t,
    createdAt := t.createdAt, updatedAt := t.updatedAt, deps := sortIds (g.depsOf t.id), rdeps := sortIds (g.rdepsOf t.id),
    title := t.title, body := t.body, results := t.results }

inductive ShowOut where
  | item (i : ShowItem)
  | epic (e : ShowItem) (children : List ShowItem)     -- an epic that has children
  deriving DecidableEq, Repr, Inhabited

/-- `collectEpicChildren`: the epic's tasks in dependency order -/
def epicChildren (g : Graph) (e : Id) : List Task := Render.topoSort g (g.tasks.filter fun t => !t.isEpic && t.epicId == e)

def showJson (g : Graph) (id : Id) : Except CmdErr ShowOut :=
  if g.tombed id then .error (.pruned id)
  else match g.find? id with
    | none => .error (.unknownTask id)
    | some t =>
      let kids := if t.isEpic then epicChildren g id else []
      if t.isEpic && !kids.isEmpty then .ok (.epic (showItem g t) (kids.map (showItem g)))
      else .ok (.item (showItem g t))

/-! ### replies of the mutating commands -/
inductive Reply where
  | created (isEpic : Bool) (id uuid epicId : Id) (st : St) (title body : String) (createdAt : Time)
  | set (id : Id) (fields : List String) (st : St) (claimedBy : String)
  | claimed (id epic : Id) (st : St) (title body agent : String) (claimedAt : Time)
  | noReady
  | sequence (unlink : Bool) (edges : List (Id × Id))         -- (from, to) as printed
  | pruned (dryRun : Bool) (ids : List Id)
  | compacted
  | planned (o : PlanOut)
  deriving Repr, Inhabited

/-- `updated_fields` of `set --json`, per input mode -/
def updatedFields (i : RawInput) : List String :=
  let f := i.flags
  let flag (b : Bool) (s : String) := if b then [s] else []
  if i.bodyStdin then
    ["body"] ++ flag (Text.trimSpace f.title != "") "title" ++ flag (f.epic != "") "epic" ++ flag (f.state != "") "state" ++
      flag (f.claim != "") "claim" ++ flag (f.resultPath != "") "result_path" ++ flag (f.resultSummary != "") "result_summary"
  else if !i.piped && setHasFlagInput f then
    flag (Text.trimSpace f.title != "") "title" ++ flag (f.body != "") "body" ++ flag (f.epic != "") "epic" ++ flag (f.state != "") "state" ++
      flag (f.claim != "") "claim" ++ flag (f.resultPath != "") "result_path" ++ flag (f.resultSummary != "") "result_summary"
  else match i.json with
    | none => []
    | some t =>
      flag t.title.isSome "title" ++ flag t.body.isSome "body" ++ flag t.epic.isSome "epic" ++ flag t.state.isSome "state" ++
        flag t.claim.isSome "claim" ++ flag t.resultPath.isSome "result_path" ++ flag t.resultSummary.isSome "result_summary"

/-- the events a command appended (for `new`: the item's own events, which the reply's `state` is replayed from) -/
def Write.appended : Write → List Event
  | .append evs => evs
  | .replace _ => []

/-- the value printed on stdout (with `--json`) by a command that succeeded; `none` = internal error paths
    (`unknown task id` after a successful write — unreachable when the write was accepted, proved in Props/C16) -/
def replyOf (env : Env) (req : Request) (res : CmdResult) : Option Reply :=
  match res.err with
  | some _ => none
  | none =>
    match req with
    | .newTask _ | .newEpic _ =>
      (match res.write, res.out.created with
       | some w, some id =>
         (match w.appended.head? with
          | some (.newItem isEpic id' uuid epicId _ title body cat) =>
            -- state: replay of the command's own events, `todo` if that replay fails
            let st := match replayRaw w.appended with
              | .ok g => (match g.find? id with | some t => t.st | none => .todo)
              | .error _ => .todo
            some (.created isEpic id' uuid epicId st title body (cat.getD 0))
          | _ => none)
       | _, _ => none)
    | .set id i =>
      (match replay res.log with
       | .ok g => (g.find? id).map fun t => .set id (updatedFields i) t.st t.claimedBy
       | .error _ => none)
    | .claim id =>
      (match replay res.log with
       | .ok g => (g.find? id).map fun t => .claimed t.id t.epicId t.st t.title t.body env.agent (claimedAt t)
       | .error _ => none)
    | .claimOldest _ =>
      (match res.write, res.out.claimed with
       | none, _ => some .noReady
       | some _, some t => some (.claimed t.id t.epicId .doing t.title t.body env.agent res.out.now)
       | some _, none => none)
    | .sequence args =>
      (match args with
       | "rm" :: [a, b] => some (.sequence true [(b, a)])
       | a :: rest => some (.sequence false (((a :: rest).zip rest).map fun (x, y) => (y, x)))
       | [] => none)
    | .prune yes => some (.pruned (!yes) res.out.pruned)
    | .compact => some .compacted
    | .plan _ => res.out.plan.map .planned

end Ergo
