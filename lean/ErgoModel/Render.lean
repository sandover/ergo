/-
  ErgoModel.Render — the human `list` view (tree_view.go): display-width arithmetic of a row, Kahn ordering of siblings,
  which items each view shows, and the summary buckets.  A display string is a list of cells (character + the width
  go-runewidth assigns to it); colour codes have width 0 and are left out.
-/
import ErgoModel.Query
namespace Ergo.Render

structure Cell where
  ch : Char
  w  : Nat          -- 0, 1 or 2
  deriving DecidableEq, Repr, Inhabited

abbrev Str := List Cell

def visLen (s : Str) : Int := (s.map fun c => (c.w : Int)).sum
def sp : Cell := ⟨' ', 1⟩
def spaces (n : Int) : Str := List.replicate n.toNat sp

/-- the cells that fit into `target` columns, stopping at the first one that does not -/
def takeWidth : Str → Int → Str
  | [], _ => []
  | c :: cs, target => if (c.w : Int) > target then [] else c :: takeWidth cs (target - c.w)

/-- `truncateToWidth` (text without escape sequences); `ell` is "…" with its width -/
def truncateToWidth (ell : Cell) (s : Str) (maxW : Int) : Str :=
  if maxW ≤ 0 then []
  else if maxW ≤ 1 then [ell]
  else if visLen s ≤ maxW then s
  else
    let target := maxW - ell.w
    if target < 1 then [ell] else takeWidth s target ++ [ell]

/-- `unicode.IsControl`: category Cc -/
def isControl (c : Char) : Bool := c.toNat < 32 || (0x7F ≤ c.toNat && c.toNat ≤ 0x9F)

/-- `singleLine`: control characters become spaces, so one item stays on one row -/
def singleLine (s : Str) : Str := s.map fun c => if isControl c.ch then sp else c

structure RowIn where
  base       : Str            -- tree prefix + connector + icon (always ends in a space)
  title      : Str
  annotation : Str            -- "" or "  @claimer"
  blocker    : Str            -- "" or "⧗ …"
  id         : Str            -- six cells of width 1
  width      : Int            -- terminal width
  deriving Repr, Inhabited

/-- `formatTreeLine` without colours -/
def formatTreeLine (ell : Cell) (r0 : RowIn) : Str :=
  let r : RowIn := { r0 with title := singleLine r0.title, annotation := singleLine r0.annotation, blocker := singleLine r0.blocker }
  let minGap : Int := 2
  let idStart0 := r.width - 2 - r.id.length - minGap
  let idStart := if idStart0 < 0 then 0 else idStart0
  let baseW := visLen r.base
  let maxContent0 := idStart - minGap - baseW
  let maxContent := if maxContent0 < 0 then 0 else maxContent0
  let (title, ann) :=
    if visLen r.title + visLen r.annotation > maxContent then
      let maxAnn := maxContent - visLen r.title
      let ann := if maxAnn > 0 && !r.annotation.isEmpty then truncateToWidth ell r.annotation maxAnn else []
      let title := if visLen r.title > maxContent then truncateToWidth ell r.title maxContent else r.title
      (title, ann)
    else (r.title, r.annotation)
  let left := r.base ++ title ++ ann
  let withBlocker :=
    if r.blocker.isEmpty then left
    else
      let available := idStart - minGap - visLen left
      if available > 6 then
        let blockerCol0 := r.width * 55 / 100
        let maxStart := idStart - minGap - 1
        let blockerCol := if blockerCol0 > maxStart then maxStart else blockerCol0
        let pad := blockerCol - visLen left
        let sb := left ++ (if pad > 1 then spaces pad else [sp, sp])
        let maxB := idStart - minGap - visLen sb
        if maxB > 0 then sb ++ (if visLen r.blocker > maxB then truncateToWidth ell r.blocker maxB else r.blocker) else sb
      else left
  let padding0 := idStart - visLen withBlocker
  let padding := if padding0 < 0 then 0 else padding0
  withBlocker ++ spaces padding ++ [sp, sp] ++ r.id

/-- `abbreviate`: of a text longer than `maxLen` *bytes* at most `maxLen - 1` are kept, cut on a character boundary
    (`lens` = UTF-8 length of each character).  Returns the number of whole characters kept before the "…" (all of them if the text fits). -/
def abbreviateKeep (lens : List Nat) (maxLen : Nat) : Nat :=
  if lens.sum ≤ maxLen then lens.length
  else if maxLen ≤ 1 then 0
  else
    let rec go : List Nat → Nat → Nat → Nat
      | [], _, k => k
      | l :: ls, room, k => if l ≤ room then go ls (room - l) (k + 1) else k
    go lens (maxLen - 1) 0

/-! ### sibling order: Kahn's algorithm with the (ready first, id) queue order -/
def qLe (g : Graph) (a b : Task) : Bool :=
  let ra := isReady g a; let rb := isReady g b
  if ra != rb then ra else strLe a.id b.id

def dependsOn (g : Graph) (a b : Id) : Bool := g.deps.contains (a, b)

def inDegree (g : Graph) (tasks : List Task) (t : Task) : Nat :=
  ((g.depsOf t.id).eraseDups.filter fun d => tasks.any (·.id == d)).length

def kahn (g : Graph) (tasks : List Task) : Nat → List Task → List (Id × Nat) → List Task → List Task
  | 0, _, _, acc => acc
  | _ + 1, [], _, acc => acc
  | fuel + 1, t :: q, deg, acc =>
    let hit := tasks.filter fun o => dependsOn g o.id t.id
    let deg' := deg.map fun (i, n) => if hit.any (·.id == i) then (i, n - 1) else (i, n)
    let newly := hit.filter fun o => deg.lookup o.id == some 1
    kahn g tasks fuel ((q ++ newly).mergeSort (qLe g)) deg' (acc ++ [t])

/-- `topoSortTasks` -/
def topoSort (g : Graph) (tasks : List Task) : List Task :=
  let deg := tasks.map fun t => (t.id, inDegree g tasks t)
  let q0 := (tasks.filter fun t => inDegree g tasks t == 0).mergeSort (qLe g)
  kahn g tasks tasks.length q0 deg []

/-! ### which rows each view shows -/
inductive View where | all | active | ready
  deriving DecidableEq, Repr, Inhabited

structure Row where
  id    : Id
  child : Bool          -- rendered under an epic, with a tree glyph
  last  : Bool          -- └ instead of ├
  deriving DecidableEq, Repr, Inhabited

def childrenOf (g : Graph) (e : Id) : List Task := topoSort g (g.tasks.filter fun t => !t.isEpic && t.epicId != "" && t.epicId == e)

/-- `derivedEpicState` ∈ {empty, canceled, done, active} decides whether the default view keeps an epic -/
def epicHidden (kids : List Task) : Bool := !kids.isEmpty && kids.all fun k => k.st.closed

def kidsShown (g : Graph) (v : View) (kids : List Task) : List Task :=
  match v with
  | .all => kids
  | .active => kids.filter fun (k : Task) => k.st != St.canceled
  | .ready => kids.filter (isReady g)

/-- `buildListRoots` (no --epic) flattened into rows: orphan tasks first, then every epic with its children -/
def rows (g : Graph) (v : View) : List Row :=
  let orphans0 : List Task := topoSort g (g.tasks.filter fun t => !t.isEpic && t.epicId == "")
  let orphans : List Task := match v with
    | .all => orphans0
    | .active => orphans0.filter fun (t : Task) => t.st != St.canceled && t.st != St.done
    | .ready => orphans0.filter (isReady g)
  let epics := topoSort g (g.tasks.filter (·.isEpic))
  let epicRows := epics.flatMap fun e =>
    let kids := childrenOf g e.id
    let shown := kidsShown g v kids
    let keep := match v with
      | .all => true
      | .active => !epicHidden kids
      | .ready => !shown.isEmpty
    if !keep then []
    else { id := e.id, child := false, last := false : Row } ::
         shown.zipIdx.map fun (k, i) => { id := k.id, child := true, last := i + 1 == shown.length }
  (orphans.map fun (t : Task) => ({ id := t.id, child := false, last := false } : Row)) ++ epicRows

/-- summary buckets of `computeStatsForTasks`: (ready, inProgress, blocked, errors, done, canceled) -/
def stats (g : Graph) (tasks : List Task) : Nat × Nat × Nat × Nat × Nat × Nat :=
  let ts := tasks.filter (!·.isEpic)
  (ts.countP fun t => t.st == .todo && isReady g t,
   ts.countP fun t => t.st == .doing,
   ts.countP fun t => t.st == .blocked || (t.st == .todo && !isReady g t) || !t.st.valid,
   ts.countP fun t => t.st == .error,
   ts.countP fun t => t.st == .done,
   ts.countP fun t => t.st == .canceled)

end Ergo.Render
