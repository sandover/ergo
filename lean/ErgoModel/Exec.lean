/-
  ErgoModel.Exec — sequential execution of a command: its one section replays the log as it is when
  the section takes the lock, decides, and writes; a failing section writes nothing.
-/
import ErgoModel.Cli
namespace Ergo

/-- everything a command obtains from outside while it runs -/
structure Env where
  agent : String := ""
  times : List Time := []       -- successive `time.Now()` readings that end up in event payloads
  ids   : List Id := []         -- successive `shortID()` draws
  uuids : List String := []
  po    : PathOutcome := .rejected "none"   -- what validateResultPath/captureResultEvidence will say
  deriving Repr, Inhabited

def Env.now (e : Env) : Time := e.times.headD 0
def Env.tick (e : Env) : Env := { e with times := e.times.tail }

structure PlanOut where
  epicId : Id := ""
  epicUuid : String := ""
  title : String := ""
  createdAt : Time := 0
  tasks : List (Id × String) := []
  edges : List (Id × Id) := []
  deriving DecidableEq, Repr, Inhabited

/-- draw `n` fresh ids -/
def drawIds (live : Id → Bool) : Nat → List Id → List Id → Option (List Id × List Id)
  | 0, _, acc => some (acc.reverse, [])
  | n+1, ids, acc =>
    match pickId.go (fun i => live i || acc.contains i) 64 ids with
    | none => none
    | some (i, rest) =>
      match drawIds live n rest (i :: acc) with
      | none => none
      | some (l, _) => some (l, rest)

def planLinks (g : Graph) (t2i : List (String × Id)) :
    List (Id × List String) → List (Id × Id) → Except CmdErr (List (Id × Id))
  | [], acc => .ok acc.reverse
  | (f, afters) :: rest, acc =>
    let rec go : List String → List (Id × Id) → Except CmdErr (List (Id × Id))
      | [], acc => .ok acc
      | a :: as, acc =>
        let t := (t2i.lookup a).getD ""
        if acc.contains (f, t) then go as acc
        else if f == t then .error .depSelf
        else if hasCycle { g with deps := g.deps ++ acc.reverse } f t then .error .depCycle
        else go as ((f, t) :: acc)
    match go afters acc with
    | .error e => .error e
    | .ok acc' => planLinks g t2i rest acc'

/-- the closure of `RunPlan` -/
def secPlan (log : List Event) (g : Graph) (p : PlanInput) (env : Env) : Except CmdErr (Write × PlanOut) :=
  let n := p.tasks.length
  match drawIds g.taken (n + 1) env.ids [] with
  | none => .error .idExhausted
  | some ([], _) => .error .idExhausted
  | some (epicId :: taskIds, _) =>
    let title := p.title.getD ""
    let now := env.now
    let epicEv := Event.newItem true epicId (env.uuids.headD "") "" .todo title (p.body.getD "") (some now)
    -- task i takes the (i+1)-th clock reading and uuid of the environment (missing ones default, they are never dropped)
    let taskEvs := (p.tasks.zip taskIds).zipIdx.map fun ((t, id), i) =>
      Event.newItem false id (env.uuids.getD (i + 1) "") epicId .todo (t.title.getD "") (t.body.getD "")
        (some (env.times.getD (i + 1) now))
    -- later duplicates overwrite earlier ones in titleToID
    let t2i := ((p.tasks.zip taskIds).map fun (t, id) => (t.title.getD "", id)).reverse
    match planLinks g t2i ((p.tasks.zip taskIds).map fun (t, id) => ((t2i.lookup (t.title.getD "")).getD id, t.after)) [] with
    | .error e => .error e
    | .ok edges =>
      .ok (.replace (log ++ [epicEv] ++ taskEvs ++ edges.map fun e => Event.link e.1 e.2 true),
           { epicId, epicUuid := env.uuids.headD "", title, createdAt := now,
             tasks := (p.tasks.zip taskIds).map fun (t, id) => (id, t.title.getD ""), edges })

/-- what a section reports back to the command -/
structure SecOut where
  created : Option Id := none
  uuid    : String := ""
  now     : Time := 0
  claimed : Option Task := none
  pruned  : List Id := []
  plan    : Option PlanOut := none
  deriving Repr, Inhabited

/-- run the command's lock section against the log as it is at lock time -/
def runSec (log : List Event) (env : Env) (s : Sec) : Except CmdErr (Write × SecOut) :=
  match replay log with
  | .error e => .error (.replay e)
  | .ok g =>
    match s with
    | .create isEpic epicId title body follow =>
      (secCreate g isEpic epicId title body follow env.ids (env.uuids.headD "") env.agent env.po env.now).map fun (w, id) =>
        (w, { created := some id, uuid := env.uuids.headD "", now := env.now })
    | .update id r =>
      (secUpdate g id r env.agent env.po env.now).map fun w => (w, { now := env.now })
    | .links un edges => (secLinks g un edges).map fun w => (w, {})
    | .claimOldest epic =>
      (secClaimOldest g epic env.agent env.now).map fun (w, t) => (w, { claimed := some t, now := env.now })
    | .prune apply =>
      let (w, ids) := secPrune g apply env.agent env.now
      .ok (w, { pruned := ids, now := env.now })
    | .compact => .ok (secCompact g, {})
    | .plan p => (secPlan log g p env).map fun (w, o) => (w, { plan := some o })

def applyWrite (log : List Event) : Write → List Event
  | .append evs => log ++ evs
  | .replace evs => evs

structure CmdResult where
  err    : Option CmdErr
  log    : List Event            -- the log afterwards
  write  : Option Write
  out    : SecOut
  deriving Repr, Inhabited

/-- a whole command, run alone: pre-lock validation, then its one lock section -/
def runCmd (log : List Event) (env : Env) (req : Request) : CmdResult :=
  match sectionOf env.agent req with
  | .error e => { err := some e, log, write := none, out := {} }
  | .ok sec =>
    match runSec log env sec with
    | .ok (w, o) => { err := none, log := applyWrite log w, write := some w, out := o }
    | .error e =>
      -- `claim` (oldest ready) turns "no ready tasks" into exit 0
      let e' := match req, e with
        | .claimOldest _, .noReady => none
        | _, e => some e
      { err := e', log, write := none, out := {} }

end Ergo
