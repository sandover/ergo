/-
  ErgoModel.Storage — the log file at byte level (storage.go: readEvents, appendEvents, replaceEventsAtomically).
  The JSON-object parser of a line and the encoder of an event are parameters (`classify`, `encode`):
  theorems hold for every pair satisfying the stated hypotheses; the executable driver uses `Codec.classifyLine` and
  compares it with each line's classification from the real `json.Unmarshal`.
-/
import ErgoModel.Basic
namespace Ergo.Storage

abbrev Bytes := List UInt8
def NL : UInt8 := 10
def CR : UInt8 := 13

/-- `bytes.Split(f, "\n")`: n newlines give n+1 pieces -/
def splitNL : Bytes → List Bytes
  | [] => [[]]
  | b :: bs =>
    match splitNL bs with
    | [] => [[b]]                 -- unreachable
    | l :: ls => if b == NL then [] :: l :: ls else (b :: l) :: ls

def dropCR (l : Bytes) : Bytes := if l.getLast? = some CR then l.dropLast else l

/-- the tokens `bufio.ScanLines` yields for the whole file: the final unterminated remainder counts iff non-empty -/
def scanLines (f : Bytes) : List Bytes :=
  let parts := splitNL f
  (if parts.getLast? = some [] then parts.dropLast else parts).map dropCR

def endsWithNL (f : Bytes) : Bool := f.getLast? == some NL

/-- what `bytes.TrimSpace` + `json.Unmarshal(&Event)` make of one line -/
inductive LineClass where
  | blank
  | ev (e : Event)
  | bad
  deriving DecidableEq, Repr, Inhabited

inductive ReadErr where
  | badLine (n : Nat)      -- 1-based physical line number, as in the message
  | tooLong
  deriving DecidableEq, Repr, Inhabited

/-- the scanner loop with its one-line delay (`pending`) -/
def readLoop (classify : Bytes → LineClass) (limit : Nat) :
    List Bytes → Nat → Option (Nat × Bytes) → List Event → Except ReadErr (List Event × Option (Nat × Bytes))
  | [], _, pending, acc => .ok (acc, pending)
  | l :: rest, n, pending, acc =>
    if l.length ≥ limit then .error .tooLong
    else match pending with
      | none => readLoop classify limit rest (n + 1) (some (n + 1, l)) acc
      | some (pn, pl) =>
        match classify pl with
        | .bad => .error (.badLine pn)
        | .blank => readLoop classify limit rest (n + 1) (some (n + 1, l)) acc
        | .ev e => readLoop classify limit rest (n + 1) (some (n + 1, l)) (acc ++ [e])

/-- `readEvents`: a final line that does not parse is dropped iff the file does not end in '\n' -/
def readEvents (classify : Bytes → LineClass) (limit : Nat) (f : Bytes) : Except ReadErr (List Event) :=
  match readLoop classify limit (scanLines f) 0 none [] with
  | .error e => .error e
  | .ok (acc, none) => .ok acc
  | .ok (acc, some (pn, pl)) =>
    match classify pl with
    | .bad => if endsWithNL f then .error (.badLine pn) else .ok acc
    | .blank => .ok acc
    | .ev e => .ok (acc ++ [e])

/-- the bytes one batch of events adds: each event's line followed by '\n' -/
def linesOf (encode : Event → Bytes) (evs : List Event) : Bytes := evs.flatMap fun e => encode e ++ [NL]

/-- everything after the last '\n' (the whole file if there is none) -/
def lastFragment (f : Bytes) : Bytes := (splitNL f).getLast?.getD []
/-- the file up to and including its last '\n' -/
def uptoLastNL (f : Bytes) : Bytes := f.take (f.length - (lastFragment f).length)

/-- `repairTornTail`: under the lock, before appending — a log that does not end in '\n' keeps its final
    fragment iff it is a complete event (then only the newline is added), otherwise the fragment is cut off -/
def repairTail (classify : Bytes → LineClass) (f : Bytes) : Bytes :=
  if f.isEmpty || endsWithNL f then f
  else match classify (dropCR (lastFragment f)) with
    | .ev _ => f ++ [NL]
    | _ => uptoLastNL f

/-- `appendEvents`: repair, then one write(2) with all lines of the batch -/
def appendFile (classify : Bytes → LineClass) (encode : Event → Bytes) (f : Bytes) (evs : List Event) : Bytes :=
  repairTail classify f ++ linesOf encode evs

/-- the same write cut short after `k` bytes of the batch (process killed inside write(2)) -/
def appendTorn (classify : Bytes → LineClass) (encode : Event → Bytes) (f : Bytes) (evs : List Event) (k : Nat) : Bytes :=
  repairTail classify f ++ (linesOf encode evs).take k

/-- `replaceEventsAtomically`: the log name points to a complete new file (or still to the old one) -/
def replaceFile (encode : Event → Bytes) (evs : List Event) : Bytes := linesOf encode evs


/-! ### a lock-free reader, read by read

`readEvents` does not get the file in one piece: the scanner issues `read(2)` calls one after the other while writers go on.
What the reader ends up with is a function of the successive contents of *the file it opened* (an inode: a rename gives the name to a
new file and leaves this one alone) and of how much each `read` returned. -/

/-- one `read(2)` of at most `n` bytes at offset `off` from content `f` -/
def readAt (f : Bytes) (off n : Nat) : Bytes := (f.drop off).take n

/-- the bytes a reader collects: its i-th read finds the open file with content `versions[i]` and asks for `sizes[i]` bytes -/
def chunkedRead : List (Bytes × Nat) → Bytes → Bytes
  | [], acc => acc
  | (f, n) :: rest, acc => chunkedRead rest (acc ++ readAt f acc.length n)

/-- what a writer may do to a file that readers may have open: only add bytes at its end (`appendEvents`' single write, the '\n' that
    completes an unterminated final event) — never change or remove bytes that are there.  Dropping a torn fragment and every rewrite
    (`plan`, `compact`) go to a *new* file that is renamed over the log. -/
def GrowsOnly : List Bytes → Prop
  | [] => True
  | [_] => True
  | a :: b :: rest => a <+: b ∧ GrowsOnly (b :: rest)

end Ergo.Storage
