/-
  ErgoModel.Cli — from a parsed command line + stdin to pre-validation and the one lock
  section (commands_create.go, commands_work.go RunSet/RunClaim/RunSequence/RunPrune/RunCompact,
  commands_plan.go, plan_input.go, json_input.go validate, body_stdin.go buildFlagUpdates).
-/
import ErgoModel.Command
namespace Ergo

/-- `TaskInput` after strict decoding -/
structure TaskInput where
  title : Option String := none
  body  : Option String := none
  epic  : Option String := none
  state : Option String := none
  claim : Option String := none
  resultPath    : Option String := none
  resultSummary : Option String := none
  deriving DecidableEq, Repr, Inhabited

/-- the per-command flags of `new task` / `new epic` / `set` (empty string = not given) -/
structure Flags where
  title : String := ""
  body  : String := ""
  epic  : String := ""
  state : String := ""
  claim : String := ""
  resultPath    : String := ""
  resultSummary : String := ""
  deriving DecidableEq, Repr, Inhabited

/-- everything the input-mode selection looks at -/
structure RawInput where
  bodyStdin : Bool := false
  piped     : Bool := true              -- stdin is not a character device
  flags     : Flags := {}
  stdinText : String := ""             -- stdin as text (body in --body-stdin mode)
  json      : Option TaskInput := none  -- strict decode of stdin; none = empty / malformed / unknown key / two values
  deriving Repr, Inhabited

/-- `(*TaskInput).validate` — accepted or not (the field-level messages are not modelled) -/
def TaskInput.valid (t : TaskInput) (requireTitle isEpic : Bool) : Bool :=
  let blank (o : Option String) := match o with | some s => Text.isBlank s | none => false
  let hasTitle := match t.title with | some s => !Text.isBlank s | none => false
  (if requireTitle then hasTitle else !blank t.title) &&
  !blank t.body &&
  (match t.state with | some s => (St.ofString s).valid | none => true) &&
  !(match t.state with
    | some s => (s == "doing" || s == "error") && t.claim == some ""
    | none => false) &&
  (t.resultPath.isSome == t.resultSummary.isSome) &&
  !(isEpic && (t.epic.isSome || t.state.isSome || t.claim.isSome))

def optNE (s : String) : Option String := if s == "" then none else some s

/-- `buildFlagUpdates` -/
def flagUpdates (f : Flags) : SetReq :=
  { u := { title := optNE (Text.trimSpace f.title), epic := optNE f.epic, state := optNE f.state, claim := optNE f.claim },
    resultPath := optNE f.resultPath, resultSummary := optNE f.resultSummary }

/-- `ToKeyValueMap` -/
def TaskInput.toSetReq (t : TaskInput) : SetReq :=
  { u := { title := t.title, body := t.body, epic := t.epic, state := t.state, claim := t.claim },
    resultPath := t.resultPath, resultSummary := t.resultSummary }

structure PlanTask where
  title : Option String := none
  body  : Option String := none
  after : List String := []
  deriving DecidableEq, Repr, Inhabited

structure PlanInput where
  title : Option String := none
  body  : Option String := none
  tasks : List PlanTask := []
  deriving DecidableEq, Repr, Inhabited

/-- one `withLock` closure; every mutating command is exactly one -/
inductive Sec where
  | create (isEpic : Bool) (epicId title body : String) (follow : SetReq)
  | update (id : Id) (r : SetReq)
  | links (unlink : Bool) (edges : List (Id × Id))
  | claimOldest (epic : Id)
  | prune (apply : Bool)
  | compact
  | plan (p : PlanInput)
  deriving DecidableEq, Repr, Inhabited

/-! ### plan validation (`(*PlanInput).Validate`) -/
def optBlank (o : Option String) : Bool := match o with | some s => Text.isBlank s | none => false
def optNonBlank (o : Option String) : Bool := match o with | some s => !Text.isBlank s | none => false

def planTitles (p : PlanInput) : List String := p.tasks.filterMap (·.title)
def planEdges (p : PlanInput) : List (String × String) :=
  p.tasks.flatMap fun t => match t.title with
    | none => []
    | some ti => t.after.map fun a => (ti, a)

def hasDup : List String → Bool
  | [] => false
  | x :: xs => xs.contains x || hasDup xs

def planValid (p : PlanInput) : Bool :=
  optNonBlank p.title && !optBlank p.body && !p.tasks.isEmpty &&
  p.tasks.all (fun t => optNonBlank t.title && !optBlank t.body) &&
  !hasDup (planTitles p) &&
  p.tasks.all (fun t => t.after.all fun a =>
      !Text.isBlank a && some a != t.title && (planTitles p).contains a) &&
  !(planEdges p).any (fun e => reachable (planEdges p) e.2 e.1)

/-! ### commands -/
inductive Request where
  | newTask (i : RawInput)
  | newEpic (i : RawInput)
  | set (id : Id) (i : RawInput)
  | claim (id : Id)
  | claimOldest (epic : Id)
  | sequence (args : List String)
  | plan (p : Option PlanInput)        -- none = parse error / no input
  | prune (yes : Bool)
  | compact
  deriving Repr, Inhabited

def newTaskHasFlagInput (f : Flags) : Bool :=
  Text.trimSpace f.title != "" || f.body != "" || f.epic != "" || f.state != "" || f.claim != ""
def setHasFlagInput (f : Flags) : Bool :=
  newTaskHasFlagInput f || f.resultPath != "" || f.resultSummary != ""

/-- pre-lock validation and the lock section of each command; `agent` is `--agent` -/
def sectionOf (agent : String) : Request → Except CmdErr Sec
  | .newTask i =>
    if i.bodyStdin then
      if i.flags.body != "" then .error .bodyExclusive
      else
        let title := Text.trimSpace i.flags.title
        if title == "" then .error .needTitle
        else
          let r := flagUpdates i.flags
          let r := { r with u := { r.u with title := none, epic := none } }
          if !r.paired then .error .resultPair
          else .ok (Sec.create false i.flags.epic title i.stdinText r)
    else if !i.piped && newTaskHasFlagInput i.flags then
      let title := Text.trimSpace i.flags.title
      if title == "" then .error .needTitle
      else
        let r := flagUpdates i.flags
        let r := { r with u := { r.u with title := none, epic := none } }
        if !r.paired then .error .resultPair
        else .ok (Sec.create false i.flags.epic title i.flags.body r)
    else match (if i.piped then i.json else none) with
      | none => .error .parseErr
      | some t =>
        if !t.valid true false then .error .validation
        else
          let r := t.toSetReq
          let r := { r with u := { r.u with title := none, body := none, epic := none } }
          let r := if t.state.isSome || t.claim.isSome || t.resultPath.isSome then r else {}
          if !r.paired then .error .resultPair
          else .ok (Sec.create false (t.epic.getD "") (t.title.getD "") (t.body.getD "") r)
  | .newEpic i =>
    if i.bodyStdin then
      if i.flags.body != "" then .error .bodyExclusive
      else
        let title := Text.trimSpace i.flags.title
        if title == "" then .error .needTitle
        else .ok (Sec.create true "" title i.stdinText {})
    else if !i.piped && Text.trimSpace i.flags.title != "" then
      .ok (Sec.create true "" (Text.trimSpace i.flags.title) i.flags.body {})
    else match (if i.piped then i.json else none) with
      | none => .error .parseErr
      | some t =>
        if !t.valid true true then .error .validation
        else .ok (Sec.create true "" (t.title.getD "") (t.body.getD "") {})
  | .set id i =>
    if id == "" then .error .usage
    else if i.bodyStdin then
      if i.flags.body != "" then .error .bodyExclusive
      else if Text.isBlank i.stdinText then .error .emptyBody
      else
        let r := flagUpdates i.flags
        let r := { r with u := { r.u with body := some i.stdinText } }
        if !r.paired then .error .resultPair else .ok (Sec.update id r)
    else if !i.piped && setHasFlagInput i.flags then
      let r := flagUpdates i.flags
      let r := if i.flags.body != "" then { r with u := { r.u with body := some i.flags.body } } else r
      if r.isEmpty then .error .noFields
      else if !r.paired then .error .resultPair else .ok (Sec.update id r)
    else match (if i.piped then i.json else none) with
      | none => .error .parseErr
      | some t =>
        if !t.valid false false then .error .validation
        else
          let r := t.toSetReq
          if r.isEmpty then .error .noFields
          else if !r.paired then .error .resultPair else .ok (Sec.update id r)
  | .claim id =>
    if id == "" then .error .usage
    else if agent == "" then .error .needAgent
    else .ok (Sec.update id { u := { claim := some agent, state := some "doing" } })
  | .claimOldest epic =>
    if agent == "" then .error .needAgent else .ok (Sec.claimOldest epic)
  | .sequence args =>
    match args with
    | [] | [_] => .error .usage
    | "rm" :: rest =>
      (match rest with
       | [a, b] => .ok (Sec.links true [(b, a)])
       | _ => .error .usage)
    | a :: rest =>
      .ok (Sec.links false (((a :: rest).zip rest).map fun (x, y) => (y, x)))
  | .plan p =>
    match p with
    | none => .error .parseErr
    | some p => if planValid p then .ok (Sec.plan p) else .error .validation
  | .prune yes => .ok (Sec.prune yes)
  | .compact => .ok Sec.compact

end Ergo
