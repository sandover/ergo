/-
  C10 — A command that fails changes nothing.
-/
import ErgoProofs.Lemmas.FileLog
namespace Ergo

/-- whenever a command exits non-zero, for whatever reason, the log is exactly what it was and nothing was written (lock busy is no error of
    `runCmd`, a command run alone: `C01_busy_no_effect`) -/
theorem C10_failure_changes_nothing (log : List Event) (env : Env) (req : Request) (e : CmdErr)
    (h : (runCmd log env req).err = some e) : (runCmd log env req).log = log ∧ (runCmd log env req).write = none :=
  runCmd_err_unchanged log env req e h

/-- a section that decides "error" has returned no write: true of every `Except` value, it records only that the model's sections return an
    error or a write -/
theorem C10_section_error_no_write (log : List Event) (env : Env) (sec : Sec) (e : CmdErr)
    (h : runSec log env sec = .error e) : ∀ w o, runSec log env sec ≠ .ok (w, o) := by
  intro w o h'; rw [h] at h'; cases h'

/-- `sequence` is all-or-nothing: the section is `linkEvents` (one `linkCheck` per edge, the first refusal ends it) with the events made one
    append, so a refused chain writes nothing for the edges accepted before -/
theorem C10_sequence_all_or_nothing (g : Graph) (unlink : Bool) (edges : List (Id × Id)) (e : CmdErr)
    (h : linkEvents g unlink edges = .error e) : secLinks g unlink edges = .error e := by
  simp [secLinks, h, Except.map]

/-- `new` with state/claim/result, outside any epic (`hepic`): a refused follow-up update means the create event is not written either -/
theorem C10_create_all_or_nothing (g : Graph) (isEpic : Bool) (epicId title body : String) (follow : SetReq) (ids : List Id)
    (uuid agent : String) (po : PathOutcome) (now : Time) (id : Id) (e : CmdErr) (hf : follow.isEmpty = false)
    (hpick : pickId g.taken ids = some (id, []) ∨ ∃ rest, pickId g.taken ids = some (id, rest))
    (hepic : isEpic = true ∨ epicId = "")
    (hupd : updateEvents g (freshTask isEpic id uuid (if isEpic then "" else epicId) title body now) follow agent po now = .error e) :
    secCreate g isEpic epicId title body follow ids uuid agent po now = .error e := by
  obtain ⟨rest, hp⟩ : ∃ rest, pickId g.taken ids = some (id, rest) := hpick.elim (fun h => ⟨[], h⟩) fun h => h
  unfold secCreate
  simp only [bind, Except.bind, pure, Except.pure]
  have hc : (!isEpic && epicId != "") = false := by
    rcases hepic with h | h <;> simp [h]
  simp [hc, hp, hf, hupd]

/-- a failing command exists -/
example : (runCmd [] { agent := "a" } (.claim "ZZZZZZ")).err = some (.unknownTask "ZZZZZZ") := by decide

/-- a command refused before or inside its lock section leaves every byte of `.ergo/plans.jsonl` as it was, a torn tail included (the repair
    belongs to the append).  That no write leaves `f` alone is `fileAfter`'s definition; the theorem adds `write = none`.  I/O faults during
    the write are the check's business -/
theorem C10_failure_leaves_every_byte (log : List Event) (env : Env) (req : Request) (e : CmdErr) (ets : Event → String) (f : Storage.Bytes)
    (h : (runCmd log env req).err = some e) : Codec.fileAfter ets f (runCmd log env req).write = f := by
  rw [(runCmd_err_unchanged log env req e h).2]; rfl

end Ergo
