/-
  C06 — State machine and claim invariants hold on every path.
-/
import ErgoProofs.Lemmas.DiskInv
import ErgoProofs.Lemmas.DiskConc
namespace Ergo

/-- `validateTransition` / `validateClaimInvariant`, over the tables regenerated from model.go on every run, are the documented table (plus
    staying in place) and the documented claim rule -/
theorem C06_tables_documented (a b : St) (c : String) :
    validTransition a b = (a == b || docTransition a b) ∧ claimInvariantOk a c = docClaimOk a c :=
  ⟨validTransition_eq a b, claimInvariantOk_eq a c⟩

/-- after any sequence of commands every task is in one of the six states, claimed when doing/error, unclaimed when todo/done/canceled; epics
    are todo and unclaimed -/
theorem C06_inv_reach (log : List Event) (h : ReachOK log) : ∃ g, replay log = .ok g ∧ Inv06 g := by
  obtain ⟨g, hr, hinv⟩ := reach_replay log h
  exact ⟨g, hr, hinv.i06⟩

/-- whatever fields a set / claim / create request carries: if `buildSetEvents` accepts it, the item obeys the claim rule afterwards and its
    state is unchanged or moved along an arrow of the documented table (accepted ⇒ allowed only, and of `buildSetEvents`, not restated for
    `runCmd`; `hep`: `updateEvents` refuses state and claim on an epic first) -/
theorem C06_accepted_moves_in_table (t : Task) (u : Updates) (agent : String) (now : Time) (evs : List Event)
    (ht : TaskInv t) (hep : t.isEpic = true → u.state = none ∧ u.claim = none)
    (h : buildSetEvents t u agent now = .ok evs) :
    TaskInv (evs.foldl stepTask t) ∧
    ((evs.foldl stepTask t).st = t.st ∨ docTransition t.st (evs.foldl stepTask t).st = true) :=
  set_task_inv ⟨rfl, rfl, rfl⟩ ht hep h

/-- a request that names a state is rejected unless it is one of the six and the task's present state or a move the table allows -/
theorem C06_state_request_checked (t : Task) (claim : Option String) (now : Time) (s : String) (l : List Event)
    (h : evState t claim now (some s) = .ok l) :
    (St.ofString s).valid = true ∧ (t.st = St.ofString s ∨ docTransition t.st (St.ofString s) = true) := by
  have ⟨hv, htr, _⟩ := (evState_ok _ h).2 s rfl
  exact ⟨hv, htr⟩

/-- a non-empty claim without a state implies doing — and only where the table allows it -/
theorem C06_claim_implies_doing_checked (t : Task) (cv : String) (now : Time) (l : List Event) (hcv : cv ≠ "")
    (hE : t.isEpic = false) (h : evTrail t (some cv) false now = .ok l) :
    t.st = .doing ∨ docTransition t.st .doing = true :=
  (evTrail_ok _ h).2 (by simp [hE, hcv])

/-- a rejected request leaves the store untouched -/
theorem C06_rejected_untouched (log : List Event) (env : Env) (req : Request) (e : CmdErr)
    (h : (runCmd log env req).err = some e) : (runCmd log env req).log = log :=
  (runCmd_err_unchanged log env req e h).1

/-- `TaskInv` is not vacuous -/
example : ∃ t : Task, TaskInv t ∧ t.st = .doing ∧ t.claimedBy = "a" :=
  ⟨{ (freshTask false "T" "u" "" "t" "" 1) with st := .doing, claimedBy := "a" }, by
    refine ⟨⟨fun h => by simp [freshTask] at h, fun _ => ⟨rfl, rfl⟩⟩, rfl, rfl⟩⟩

/-- on disk: after any command history (`DiskReach`) the bytes of `.ergo/plans.jsonl` read back, in ergo's real line format, to a log in whose
    graph every item obeys the state and claim rules -/
theorem C06_inv_holds_of_the_bytes_on_disk {limit : Nat} {log : List Event} {f : Storage.Bytes} (h : Codec.DiskReach limit log f) :
    ∃ g, Storage.readEvents Codec.classifyLine limit f = .ok log ∧ replay log = .ok g ∧ Inv06 g := by
  obtain ⟨g, hf, hr, hinv⟩ := Codec.disk_allInv h
  exact ⟨g, hf, hr, hinv.i06⟩

/-- "on every path" includes concurrent ones, on the bytes: `C02_bytes_under_every_schedule_keep_the_invariants` for `Inv06` -/
theorem C06_inv_concurrent_on_disk (f : Storage.Bytes) (log0 : List Event) (envs : List (Env × Sec)) (nr limit : Nat)
    (ets : Event → String) (hf : Storage.readEvents Codec.classifyLine limit f = .ok log0) (hfw : Codec.AllWf log0) (h0 : SecReach log0)
    (hok : ∀ es ∈ envs, SecOK es.1 es.2) (hT : ∀ es ∈ envs, Codec.EnvT es.1)
    (s : ProcB.BSys) (h : ProcB.BReachableNT (ProcB.BSys.init f (envs.map fun (es : Env × Sec) => secDecide es.1 es.2) nr limit ets) s)
    (hclock : ∀ (i p : Nat) (snap : List Event) (w : Write) (g : Graph), s.commits[i]? = some (p, snap, w) → replayRaw snap = .ok g →
               ∀ es : Env × Sec, envs[p]? = some es → EnvOK g es.1) :
    ∃ L g, Storage.readEvents Codec.classifyLine limit s.file = .ok L ∧ replayRaw L = .ok g ∧ Inv06 g := by
  obtain ⟨L, g, hl, hg, hinv⟩ := ProcB.conc_disk_allInv f log0 envs nr limit ets hf hfw h0 hok hT s h hclock
  exact ⟨L, g, hl, hg, hinv.i06⟩

end Ergo
