/-
  C17 — Titles and bodies come back exactly as they went in.
  Text is a list of Unicode scalar values: `List Char` in the theorems about the JSON string codec, `String` in events, `TaskInput` and at the
  byte level (`Codec.encStr s` encodes `s.toList`).  Assumed (trusted base): Go string ⇄ list of scalar values for valid UTF-8.
-/
import ErgoProofs.Lemmas.ReachInv
import ErgoProofs.Lemmas.CodecThm
import ErgoProofs.Lemmas.InputThm
import ErgoProofs.Lemmas.StampFree
namespace Ergo

/-- the JSON string codec round-trips every valid Unicode text, with the log's HTML-escaping encoder and with the output's plain one -/
theorem C17_codec_roundtrip (esc : Bool) (s : List Char) : Json.decodeString (Json.encodeString esc s) = some s :=
  Json.decode_encode esc s

/-- an encoded string contains no control character: it can neither split a JSONL line nor be eaten by the scanner's CR/LF handling -/
theorem C17_encoded_has_no_newline (esc : Bool) (s : List Char) : ∀ c ∈ Json.encodeString esc s, 32 ≤ c.toNat := by
  simp only [Json.encodeString, Json.encodeBody, List.forall_mem_cons, List.forall_mem_append, List.forall_mem_flatMap]
  exact ⟨⟨by decide, fun x _ => Json.encodeChar_ge esc x⟩, by decide, nofun⟩

/-- one trip through the log: encode with the log's HTML-escaping encoder, decode on replay -/
def throughLog (t : List Char) : Option (List Char) := Json.decodeString (Json.encodeString true t)

/-- `n` compactions re-encode and re-read the text `n` more times -/
def throughCompactions : Nat → List Char → Option (List Char)
  | 0, t => some t
  | n + 1, t => (throughLog t).bind (throughCompactions n)

/-- a text passed through the JSON string codec as often as a stored text is — into the log, through `n` compactions, out to the consumer —
    comes back character for character (the string codec only: no line, replay or `compactEvents` occurs here) -/
theorem C17_pipeline (s : List Char) (n : Nat) :
    ((throughLog s).bind (throughCompactions n)).bind (fun t => Json.decodeString (Json.encodeString false t)) = some s := by
  have hstore : ∀ t, throughLog t = some t := fun t => Json.decode_encode true t
  have hn : ∀ n t, throughCompactions n t = some t := by
    intro n
    induction n with
    | zero => intro t; rfl
    | succ n ih => intro t; simp [throughCompactions, hstore, ih]
  simp [hstore, hn, Json.decode_encode]

/-- the only documented alteration — titles given by flag or by `set` lose surrounding white space and nothing else -/
theorem C17_trim_only_surrounding_space (s : List Char) :
    ∃ pre suf, s = pre ++ Text.trimSpaceL s ++ suf ∧ (∀ c ∈ pre, Text.isSpace c = true) ∧ (∀ c ∈ suf, Text.isSpace c = true) :=
  let ⟨pre, suf, h1, h2, h3, _, _⟩ := Text.trimSpaceL_spec s
  ⟨pre, suf, h1, h2, h3⟩

/-- the event `set` builds for a body (`evBody`, called by `buildSetEvents`) carries the text as given, untrimmed -/
theorem C17_set_body_verbatim (id : Id) (now : Time) (b : String) : evBody id now (some b) = [Event.body id b (some now)] := rfl

/-- JSON create stores title and body verbatim (no trimming) -/
theorem C17_json_create_verbatim (agent : String) (t : TaskInput) (hv : t.valid true false = true)
    (hplain : t.state = none ∧ t.claim = none ∧ t.resultPath = none) :
    sectionOf agent (.newTask { piped := true, json := some t }) =
      .ok (.create false (t.epic.getD "") (t.title.getD "") (t.body.getD "") {}) := by
  obtain ⟨h1, h2, h3⟩ := hplain
  simp [sectionOf, hv, h1, h2, h3, SetReq.paired]

/-- replay's legacy-title pass never touches an item whose title is not blank -/
theorem C17_no_migration (t : Task) (h : Text.isBlank t.title = false) : migrateTask t = t := by
  simp [migrateTask, h]

/-- compaction keeps title and body of every item of every reachable store (any number of times) -/
theorem C17_through_compact (log : List Event) (h : ReachOK log) :
    ∃ g g', replay log = .ok g ∧ replay (compactEvents g) = .ok g' ∧
      ∀ id, (g'.find? id).map (fun t => (t.title, t.body)) = (g.find? id).map (fun t => (t.title, t.body)) :=
  let ⟨g, hr, _, h1, hobs⟩ := reach_compact log h
  ⟨g, _, hr, h1, hobs.find_map fun o => (o.title, o.body)⟩


/-- byte level: the line written for an event decodes to that very event, whatever characters its title and body hold
    (`C12_written_line_means_its_event` again) -/
theorem C17_line_roundtrip (ets : Event → String) (e : Event) (h : Codec.Wf e) :
    Codec.classifyLine (Codec.encodeEvent ets e) = .ev e :=
  Codec.classify_encode ets e h

/-- in particular for a creation and for title / body updates, with any text -/
theorem C17_text_events_roundtrip (ets : Event → String) (id : Id) (title body : String) (t : Time) (ht : t < Time.maxT) :
    Codec.classifyLine (Codec.encodeEvent ets (.newItem false id "" "" .todo title body (some t))) = .ev (.newItem false id "" "" .todo title body (some t)) ∧
    Codec.classifyLine (Codec.encodeEvent ets (.title id title (some t))) = .ev (.title id title (some t)) ∧
    Codec.classifyLine (Codec.encodeEvent ets (.body id body (some t))) = .ev (.body id body (some t)) :=
  ⟨Codec.classify_encode ets _ ⟨rfl, ht⟩, Codec.classify_encode ets _ ht, Codec.classify_encode ets _ ht⟩

/-- no byte below 0x20 in a written line: a newline or tab in a title cannot split or shift the line -/
theorem C17_line_has_no_control_bytes (ets : Event → String) (e : Event) : ∀ b ∈ Codec.encodeEvent ets e, (32 : UInt8) ≤ b :=
  Codec.clean_encodeEvent ets e

/-- UTF-8: text survives encoding and (lossy) decoding unchanged -/
theorem C17_utf8_roundtrip (cs : List Char) : Codec.utf8DecLossy (Codec.utf8Enc cs) = cs :=
  Codec.utf8DecLossy_encoded cs


/-- the way in: the document `json.Marshal` writes for `t` (`Input.encTaskInput`: present fields, schema order, no white space) is decoded
    by `ParseTaskInput` to exactly `t`; other spellings of the same document (key order, white space, other escapes) are not covered -/
theorem C17_stdin_document_roundtrip (t : TaskInput) (hne : Input.taskInputMembers t ≠ []) (tail : Storage.Bytes) (ht : Codec.skipWs tail = []) :
    Input.parseTaskInput (Input.encTaskInput t ++ tail) = some t := by
  have _ := hne  -- not needed
  have h := Input.ptrFields_enc Input.taskInputFields (by decide +kernel) [t.title, t.body, t.epic, t.state, t.claim, t.resultPath, t.resultSummary] rfl
  simp only [Input.parseTaskInput, Input.encTaskInput,
    Input.document_encObj 1 _ (Input.val_taskInputMembers t _) (by have := Input.taskInputMembers_length_le t; omega) tail, if_pos ht]
  rw [Input.taskInputMembers_eq, h]

/-- title and body of an item follow from the order of the lines, not from their stamps: the edit recorded later wins -/
theorem C17_text_follows_line_order_not_stamps {l l' : List Event} (h : SameLines l l') {g g' : Graph}
    (hr : replay l = .ok g) (hr' : replay l' = .ok g') (id : Id) :
    (g.find? id).map (fun t => (t.title, t.body)) = (g'.find? id).map (fun t => (t.title, t.body)) :=
  stamp_free_find_map _ (fun _ => rfl) h hr hr' id

end Ergo
