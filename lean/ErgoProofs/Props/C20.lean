/-
  C20 — Result attachments are confined, faithful and never lost.
  The command gets the outcome of `validateResultPath` and of evidence capture from the environment (`PathOutcome`): nothing in Lean joins
  `C20_confined` (what is accepted) to `C20_live_task_only` (what is stored).
-/
import ErgoProofs.Lemmas.ReachInv
import ErgoProofs.Lemmas.UrlThm
import ErgoProofs.Lemmas.StampFree
namespace Ergo

/-- Go's Clean puts every surviving ".." in front: a cleaned relative path is k × ".." followed by plain names -/
theorem C20_clean_shape (p : Path.P) (hrel : Path.isAbs p = false) (hne : p ≠ []) :
    ∃ (k : Nat) (names : List Path.P), (∀ c ∈ names, Path.IsName c) ∧
      ((k = 0 ∧ names = [] ∧ Path.clean p = ['.']) ∨ ((k ≠ 0 ∨ names ≠ []) ∧ Path.clean p = Path.joinSlash (List.replicate k Path.dotdot ++ names))) :=
  Path.clean_shape p hrel hne

/-- an accepted result path is the cleaned input: relative, without any ".." component, not under `.ergo`, naming an existing regular
    file under the project root -/
theorem C20_confined (fs : Path.P → Path.Kind) (repo rel c : Path.P) (h : Path.validateResultPath fs repo rel = .ok c) :
    c = Path.clean rel ∧ Path.isAbs c = false ∧ (∀ comp ∈ Path.splitSlash c, comp ≠ Path.dotdot) ∧
    (Path.splitSlash c).head? ≠ some Path.ergoName ∧ fs (Path.join [repo, c]) = .file := by
  revert h
  fun_cases Path.validateResultPath fs repo rel with
  | case6 c' habs hout hergo hfile =>  -- the one branch that accepts
    intro h
    exact Except.ok.inj h ▸ ⟨rfl, by simpa using habs, fun comp hcomp hdd => hout (hdd ▸ Path.hasPrefix_or_containsSub_of_mem _ _ hcomp),
      fun hh => hergo (Path.hasPrefix_slash_of_head _ _ hh), hfile⟩
  | _ => nofun

/-- whatever its spelling, a path that leaves the project, is absolute, or enters `.ergo` after cleaning is refused -/
theorem C20_escape_refused (fs : Path.P → Path.Kind) (repo rel : Path.P)
    (h : Path.isAbs (Path.clean rel) = true ∨ (Path.splitSlash (Path.clean rel)).head? = some Path.dotdot ∨
         (Path.splitSlash (Path.clean rel)).head? = some Path.ergoName) :
    ∃ e, Path.validateResultPath fs repo rel = .error e := by
  cases hv : Path.validateResultPath fs repo rel with
  | error e => exact ⟨e, rfl⟩
  | ok c =>
    -- an accepted path is confined, and `h` says this one is not
    obtain ⟨rfl, habs, hdd, hergo, -⟩ := C20_confined fs repo rel c hv
    rcases h with h | h | h
    · rw [habs] at h; cases h
    · exact absurd rfl (hdd _ (List.mem_of_mem_head? h))
    · exact absurd h hergo

/-- a result can be attached only to a live task (not an epic, not a pruned or unknown id), with a one-line summary of at
    most 120 bytes -/
theorem C20_live_task_only (g : Graph) (id : Id) (r : SetReq) (agent : String) (po : PathOutcome) (now : Time) (w : Write)
    (s p : String) (hr : r.resultPath = some p ∧ r.resultSummary = some s)
    (h : secUpdate g id r agent po now = .ok w) :
    g.tombed id = false ∧ ∃ t, g.find? id = some t ∧ t.isEpic = false ∧ resultSummaryOk s = true ∧ ∃ c sha m gi, po = .ok c sha m gi :=
  live_task_only g id r agent po now w s p hr h

/-- results accumulate newest first and are never dropped, duplicated, reordered or altered: one more event leaves a task's results as
    they are or prepends one (or the task is gone: pruned) -/
theorem C20_accumulate (g : Graph) (e : Event) (g' : Graph) (h : applyEvent g e = .ok g') (t : Task) (ht : g.find? t.id = some t)
    (hwf : WF g) :
    g'.find? t.id = none ∨ ∃ t', g'.find? t.id = some t' ∧ ∃ new, t'.results = new ++ t.results ∧ new.length ≤ 1 := by
  have keep : ∃ new, t.results = new ++ t.results ∧ new.length ≤ 1 := ⟨[], rfl, Nat.zero_le 1⟩
  cases applyEvent_cases _ h with
  | skip | link | unlink => exact .inr ⟨t, ht, keep⟩
  | update id =>
    rw [Graph.update_find? g id t.id _ fun k => stepTask_id k e, ht]
    refine .inr ⟨_, rfl, ?_⟩
    dsimp only
    split
    · exact stepTask_results t e
    · exact keep
  | newItem =>
    refine .inr ⟨t, ?_, keep⟩
    unfold Graph.find? at ht ⊢
    simp only [List.find?_append, ht, Option.some_or]
  | tombstone id =>
    -- an item still found under this id is `t` itself, ids being unique
    cases hf : (applyTombstone g id).find? t.id with
    | none => exact .inl rfl
    | some t' =>
      obtain ⟨hm, hid⟩ := Graph.mem_of_find? hf
      cases eq_of_id_eq hwf.nodup (List.mem_filter.1 hm).1 (Graph.mem_of_find? ht).1 hid
      exact .inr ⟨_, rfl, keep⟩

/-- compaction keeps every result, in order, with its evidence fields (of any log that replays: `C05_items_survive_compaction_of_any_log`) -/
theorem C20_compact_keeps_results (log : List Event) (h : ReachOK log) :
    ∃ g g', replay log = .ok g ∧ replay (compactEvents g) = .ok g' ∧
      ∀ id, (g'.find? id).map (·.results) = (g.find? id).map (·.results) :=
  let ⟨g, hr, _, h1, hobs⟩ := reach_compact log h
  ⟨g, _, hr, h1, hobs.find_map Obs.results⟩


/-! ### the derived `file://` URL (ErgoModel.Url, tied to `deriveFileURL` by fn-path) -/

/-- with an absolute project directory the URL is `file:///…`, for any spelling of the relative path (that `resolveErgoDir` returns an
    absolute directory has no theorem) -/
theorem C20_file_url_absolute (repo rel : Path.P) (habs : Path.isAbs repo = true) :
    ∃ rest, Url.fileURL repo rel = Url.scheme ++ 47 :: rest := by
  obtain ⟨cs, h⟩ := Url.urlPath_absolute repo rel habs
  refine ⟨Url.escapePath (Url.utf8 cs), ?_⟩
  unfold Url.fileURL
  rw [h, Url.utf8_slash, Url.escapePath_cons]
  rfl

/-- with no backslash in it, the path in the URL is the escaped UTF-8 of the *cleaned* join (`Path.join` ends with `Clean`) -/
theorem C20_file_url_of_clean (repo rel : Path.P) (habs : Path.isAbs repo = true) (hb : ∀ c ∈ Path.join [repo, rel], c ≠ '\\') :
    Url.fileURL repo rel = Url.scheme ++ Url.escapePath (Url.utf8 (Path.join [repo, rel])) := by
  unfold Url.fileURL
  rw [Url.urlPath_eq_join repo rel habs hb]

/-- an escaped path is a single printable ASCII token (no space, control character, quote, angle bracket, backslash or byte ≥ 128) -/
theorem C20_file_url_is_one_token (bs : Url.Bytes) :
    ∀ b ∈ Url.escapePath bs, 33 ≤ b ∧ b ≤ 126 ∧ b ≠ 34 ∧ b ≠ 60 ∧ b ≠ 62 ∧ b ≠ 92 :=
  fun b hb => Url.urlByte_printable b (Url.escapePath_bytes bs b hb)

/-- unescaping an escaped path gives back exactly the bytes that were escaped -/
theorem C20_file_url_roundtrip (bs : Url.Bytes) : Url.unescape (Url.escapePath bs) = some bs :=
  Url.unescape_escapePath bs

/-- a task's results, their evidence and their order follow from the order of the lines, not from their stamps: none is dropped for a
    stamp that is not later than another -/
theorem C20_results_follow_line_order_not_stamps {l l' : List Event} (h : SameLines l l') {g g' : Graph}
    (hr : replay l = .ok g) (hr' : replay l' = .ok g') (id : Id) :
    (g.find? id).map (fun t => t.results.map fun r => (r.summary, r.path, r.sha, r.mtime, r.git)) =
    (g'.find? id).map (fun t => t.results.map fun r => (r.summary, r.path, r.sha, r.mtime, r.git)) :=
  stamp_free_find_map _ (fun t => by simp [Task.untimed]) h hr hr' id

end Ergo
