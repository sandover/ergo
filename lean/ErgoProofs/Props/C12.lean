/-
  C12 — State is a total function of the log; reads are pure; history only grows.
  The model's functions are total and deterministic by construction.  Proved here: independence of Go's map iteration order, the classified
  errors of reader and replay, that every command but `compact` only extends the history, that the file's bytes decode to it.
  Absence of Go panics and hangs is observed by the check, not proved.
-/
import ErgoProofs.Lemmas.Ready
import ErgoProofs.Lemmas.Prune
import ErgoProofs.Lemmas.FileLog
import ErgoProofs.Lemmas.FilesThm
import ErgoProofs.Lemmas.StampFree
namespace Ergo

/-- claim order, prune set and compaction output do not depend on the order in which Go iterates its maps of items and edges -/
theorem C12_deterministic_queries (g g' : Graph) (hwf : WF g) (ht : g.tasks.Perm g'.tasks) (hd : g.deps.Perm g'.deps) (epic : Id) :
    readyTasks g epic = readyTasks g' epic ∧ pruneTargets g = pruneTargets g' ∧ compactEvents g = compactEvents g' :=
  ⟨readyTasks_perm hwf ht hd epic, pruneTargets_perm ht, compactEvents_perm hwf ht hd⟩

/-- the reader is total with two classified errors; "invalid JSON" names a 1-based physical line that indeed does not parse -/
theorem C12_reader_total_and_line_number {classify : Storage.Bytes → Storage.LineClass} {limit : Nat} (f : Storage.Bytes) :
    (∃ es, Storage.readEvents classify limit f = .ok es) ∨
    (∃ n, Storage.readEvents classify limit f = .error (.badLine n) ∧ 1 ≤ n ∧
          ∃ l, (Storage.scanLines f)[n - 1]? = some l ∧ classify l = .bad) ∨
    (Storage.readEvents classify limit f = .error .tooLong ∧ ∃ l ∈ Storage.scanLines f, l.length ≥ limit) := by
  cases h : Storage.readEvents classify limit f with
  | ok es => exact Or.inl ⟨es, rfl⟩
  | error e =>
    cases e with
    | badLine n => exact Or.inr (Or.inl ⟨n, rfl, Storage.readEvents_blames h⟩)
    | tooLong => exact Or.inr (Or.inr ⟨rfl, Storage.readEvents_blames h⟩)

/-- replay of any event list gives a graph or one of three classified errors -/
theorem C12_replay_total (evs : List Event) :
    (∃ g, replay evs = .ok g) ∨ replay evs = .error .badData ∨ replay evs = .error .badTime ∨ ∃ i, replay evs = .error (.duplicate i) := by
  cases h : replay evs with
  | ok g => exact Or.inl ⟨g, rfl⟩
  | error e => cases e with
    | badData => exact Or.inr (Or.inl rfl)
    | badTime => exact Or.inr (Or.inr (Or.inl rfl))
    | duplicate i => exact Or.inr (Or.inr (Or.inr ⟨i, rfl⟩))

/-- history only grows, byte level: an append extends what is read by exactly the batch -/
theorem C12_append_extends {W : Event → Prop} {classify : Storage.Bytes → Storage.LineClass} {encode : Event → Storage.Bytes} {limit : Nat}
    (hc : Storage.CodecOn W classify encode) (f : Storage.Bytes) (es evs : List Event)
    (hr : Storage.readEvents classify limit f = .ok es) (hs : Storage.Short W encode limit evs) :
    Storage.readEvents classify limit (Storage.appendFile classify encode f evs) = .ok (es ++ evs) :=
  (Storage.appendFile_reads hc hr hs).1

/-- history only grows, event level: every command except compact leaves the old log as a prefix of the new one -/
theorem C12_history_grows (log : List Event) (env : Env) (req : Request) (hreq : ∀ a, sectionOf a req ≠ .ok .compact) :
    ∃ more, (runCmd log env req).log = log ++ more := by
  rcases runCmd_cases log env req with h | ⟨sec, w, o, hs, hr, hres⟩
  · exact ⟨[], by simpa using h.1⟩
  · rw [hres]
    exact runSec_extends (fun hc => hreq env.agent (hc ▸ hs)) hr

/-- a command whose result carries no write leaves the log as it was: the refused ones, and `claim` with nothing ready.  `list`, `show`,
    `where` are no `Request`s (that they do not write is a T1/T3 check), and `prune` without `--yes` writes `.append []` -/
theorem C12_failed_or_readonly_writes_nothing (log : List Event) (env : Env) (req : Request)
    (h : (runCmd log env req).write = none) : (runCmd log env req).log = log := by
  rcases runCmd_cases log env req with h' | ⟨_, _, _, -, -, hres⟩
  · exact h'.1
  · rw [hres] at h; cases h


/-- `C12_append_extends` for ergo's actual line format -/
theorem C12_append_extends_json (ets : Event → String) {limit : Nat} (f : Storage.Bytes) (es evs : List Event)
    (hr : Storage.readEvents Codec.classifyLine limit f = .ok es) (hs : Storage.Short Codec.Wf (Codec.encodeEvent ets) limit evs) :
    Storage.readEvents Codec.classifyLine limit (Storage.appendFile Codec.classifyLine (Codec.encodeEvent ets) f evs) = .ok (es ++ evs) :=
  (Storage.appendFile_reads (Codec.jsonCodec ets) hr hs).1

/-- a line ergo wrote decodes, from its bytes alone, to the event it was written for -/
theorem C12_written_line_means_its_event (ets : Event → String) (e : Event) (h : Codec.Wf e) :
    Codec.classifyLine (Codec.encodeEvent ets e) = .ev e :=
  Codec.classify_encode ets e h

/-- the text recorded for an instant before year 10000 reads back as that instant -/
theorem C12_time_stamp_roundtrip (t : Time) (h : t < Time.maxT) : Time.parse (Time.format t) = some t :=
  Time.parse_format t h


/-- state is a function of the log *file*: after any command history (`Codec.FileLog`: see there) the bytes of `.ergo/plans.jsonl` decode,
    in the real line format, to the event list the command theorems speak about -/
theorem C12_file_decodes_to_the_log {limit : Nat} {log : List Event} {f : Storage.Bytes} (h : Codec.FileLog limit log f) :
    Storage.readEvents Codec.classifyLine limit f = .ok log ∧ Codec.AllWf log :=
  Codec.fileLog_reads h

/-- the calls `appendEvents` issues (open with `O_APPEND`, tail repair, one write) leave under the log's name exactly `appendFile`, whatever
    the temporary name and the descriptors held -/
theorem C12_append_calls_produce_the_appended_file (classify : Storage.Bytes → Storage.LineClass) (encode : Event → Storage.Bytes) (f : Storage.Bytes)
    (t : Option Storage.Bytes) (fds : Files.Fds) (evs : List Event) :
    (Files.run { dir := { log := some f, tmp := t }, fds } (Files.appendProgram classify f (Storage.linesOf encode evs))).dir.log
      = some (Storage.appendFile classify encode f evs) :=
  Files.appendProgram_result classify encode f t fds evs

/-- why `O_APPEND` is a T3 obligation on every open of the log for writing: without it the newline completing an unterminated last line
    overwrites the log's first byte -/
theorem C12_without_append_mode_earlier_bytes_are_clobbered :
    (Files.run { dir := { log := some [123, 125], tmp := none } } (Files.appendUnterminated false [49, 10])).dir.log = some [10, 125, 49, 10] :=
  Files.appendUnterminated_without_append_clobbers

/-- only the order of the lines counts: the same lines with other time stamps (a clock ahead or set back, a hand merge) replay to the same
    graph up to the clock readings stored in it, or fail alike -/
theorem C12_replay_ignores_stamp_values {l l' : List Event} (h : SameLines l l') :
    (replay l).map Graph.untimed = (replay l').map Graph.untimed :=
  replay_stamp_free h

end Ergo
