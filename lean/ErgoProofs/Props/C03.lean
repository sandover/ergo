/-
  C03 — A killed process never bricks the store or loses acknowledged work.
  Byte-level model: ErgoModel/Storage.lean; kernel: a killed write(2) leaves a prefix of its buffer.  First for any `classify`/`encode` with
  `CodecOn W`, then (`_json`, `ProcB`) for ergo's line format (`Codec.jsonCodec`), last call by call on the store's two names (ErgoModel/Files.lean).
-/
import ErgoProofs.Lemmas.ProcBytesThm
import ErgoProofs.Lemmas.FilesThm
namespace Ergo
open Storage

variable {W : Event → Prop} {classify : Bytes → LineClass} {encode : Event → Bytes} {limit : Nat}

/-- however many crashes (writes cut short at any byte offset), appends and rewrites alternate on a readable file, every later read succeeds -/
theorem C03_always_readable (hc : CodecOn W classify encode) (f g : Bytes) (es : List Event)
    (hr : readEvents classify limit f = .ok es) (h : FileReach W classify encode limit f g) :
    ∃ es', readEvents classify limit g = .ok es' := by
  induction h with
  | refl => exact ⟨es, hr⟩
  | tail _ hstep ih =>
    obtain ⟨es', hes'⟩ := ih
    cases hstep with
    | append evs hs => exact ⟨_, (appendFile_reads hc hes' hs).1⟩
    | torn evs k hs =>
      obtain ⟨n, -, h⟩ := appendTorn_reads hc k hes' hs
      exact ⟨_, h⟩
    | replace evs hs => exact ⟨evs, readEvents_linesOf hc hs⟩

/-- everything visible before stays visible, in order: only the interrupted command's own events can be missing -/
theorem C03_acknowledged_kept (hc : CodecOn W classify encode) (f g : Bytes) (es : List Event)
    (hr : readEvents classify limit f = .ok es) (h : AppendReach W classify encode limit f g) :
    ∃ more, readEvents classify limit g = .ok (es ++ more) := by
  induction h with
  | refl => exact ⟨[], by simpa using hr⟩
  | append evs _ hs ih =>
    obtain ⟨more, hm⟩ := ih
    exact ⟨more ++ evs, by rw [← List.append_assoc]; exact (appendFile_reads hc hm hs).1⟩
  | torn evs k _ hs ih =>
    obtain ⟨more, hm⟩ := ih
    obtain ⟨n, -, h⟩ := appendTorn_reads hc k hm hs
    exact ⟨more ++ evs.take n, by rw [← List.append_assoc]; exact h⟩

/-- a later mutation on any readable, however torn, file takes effect completely and leaves the store readable and closed -/
theorem C03_later_mutation_takes_effect (hc : CodecOn W classify encode) (f : Bytes) (es evs : List Event)
    (hr : readEvents classify limit f = .ok es) (hs : Short W encode limit evs) :
    readEvents classify limit (appendFile classify encode f evs) = .ok (es ++ evs) ∧
    Closed (appendFile classify encode f evs) :=
  appendFile_reads hc hr hs

/-- a write cut short at byte k leaves everything from before plus a prefix of the interrupted batch -/
theorem C03_torn_write (hc : CodecOn W classify encode) (f : Bytes) (es evs : List Event) (k : Nat)
    (hr : readEvents classify limit f = .ok es) (hs : Short W encode limit evs) :
    ∃ n, n ≤ evs.length ∧ readEvents classify limit (appendTorn classify encode f evs k) = .ok (es ++ evs.take n) :=
  appendTorn_reads hc k hr hs

/-- the repair step itself loses nothing a reader could see -/
theorem C03_repair_invisible (f : Bytes) (es : List Event) (hr : readEvents classify limit f = .ok es) :
    readEvents classify limit (repairTail classify f) = .ok es ∧ Closed (repairTail classify f) :=
  ⟨readEvents_repairTail hr, closed_repairTail classify f⟩

/-- a line cut anywhere is never taken for an event -/
theorem C03_cut_line_is_rejected (ets : Event → String) (e : Event) (p : Bytes)
    (hp : p <+: Codec.encodeEvent ets e) (hne : p ≠ Codec.encodeEvent ets e) (hnil : p ≠ []) : Codec.classifyLine p = .bad :=
  Codec.prefix_bad ets e p hp hne hnil

/-- however many kills (at any byte) and writes alternate, the JSONL store stays readable -/
theorem C03_always_readable_json (ets : Event → String) (f g : Bytes) (es : List Event)
    (hr : readEvents Codec.classifyLine limit f = .ok es) (h : FileReach Codec.Wf Codec.classifyLine (Codec.encodeEvent ets) limit f g) :
    ∃ es', readEvents Codec.classifyLine limit g = .ok es' :=
  C03_always_readable (Codec.jsonCodec ets) f g es hr h

/-- a write of well-formed events cut after `k` bytes leaves everything from before plus whole events of the batch -/
theorem C03_torn_write_json (ets : Event → String) (f : Bytes) (es evs : List Event) (k : Nat)
    (hr : readEvents Codec.classifyLine limit f = .ok es) (hs : Short Codec.Wf (Codec.encodeEvent ets) limit evs) :
    ∃ n, n ≤ evs.length ∧
      readEvents Codec.classifyLine limit (appendTorn Codec.classifyLine (Codec.encodeEvent ets) f evs k) = .ok (es ++ evs.take n) :=
  C03_torn_write (Codec.jsonCodec ets) f es evs k hr hs

/-- every command writes events of the kind `_json` covers: well-formed ones, given a well-formed log and clock readings before year 10000 -/
theorem C03_commands_write_recoverable_events (log : List Event) (hl : Codec.AllWf log) (env : Env) (he : Codec.EnvT env) (req : Request) :
    Codec.AllWf (runCmd log env req).log :=
  Codec.runCmd_wf log hl env he req

/-- whatever the interleaving of any number of writers and readers, whoever is killed wherever — between two system calls or inside its
    `write(2)` at any byte —, every file that ever had the log's name still loads -/
theorem C03_store_loads_under_every_schedule_and_kill {a b : ProcB.BSys} (h : ProcB.BReachable a b) (ha : ProcB.Inv a) : ProcB.Inv b :=
  ProcB.reach_inv h ha

/-- a step of the byte-level system is a step of the process model or a death inside a write, after which the log's file loads and shows
    everything from before followed by some events (not stated to be the first of the batch: see `ProcB.TornResult`) -/
theorem C03_death_inside_a_write_shows_a_prefix (s s' : ProcB.BSys) (hinv : ProcB.Inv s) (h : ProcB.BStep s s') :
    ProcB.Inv s' ∧ (Proc.Step (ProcB.abs s) (ProcB.abs s') ∨ (ProcB.Torn s s' ∧ ProcB.TornResult s s')) :=
  ProcB.step_sim s s' hinv h

/-- a rewrite (compact, plan, the tail repair) killed after any number of its calls short of the rename leaves the log's name alone -/
theorem C03_rewrite_publishes_only_by_its_rename (s : Files.St) (trunc : Bool) (chunks : List Bytes) (k : Nat)
    (hk : k < (Files.rewrite trunc chunks).length) : (Files.run s ((Files.rewrite trunc chunks).take k)).dir.log = s.dir.log :=
  Files.rewrite_killed s trunc chunks k hk

/-- a completed rewrite publishes exactly the new content, whatever an earlier killed rewrite left in the temporary file -/
theorem C03_stale_temporary_file_is_harmless (s : Files.St) (chunks : List Bytes) :
    (Files.run s (Files.rewrite true chunks)).dir = { log := some chunks.flatten, tmp := none } :=
  Files.rewrite_complete s chunks

/-- … because of `O_TRUNC` (a T3 obligation on every traced open of the temporary file): without it stale bytes survive -/
theorem C03_without_truncation_stale_bytes_survive :
    (Files.run { dir := { log := some [1], tmp := some [7, 7, 7, 10] } } (Files.rewrite false [[9, 10]])).dir.log = some [9, 10, 7, 10] :=
  Files.rewrite_without_trunc_keeps_stale_bytes

/-- `appendEvents` killed between any two of its calls leaves the old file, the repaired file, or the final file under the log's name -/
theorem C03_append_killed_between_calls (classify : Bytes → LineClass) (encode : Event → Bytes) (f : Bytes) (t : Option Bytes) (fds : Files.Fds)
    (evs : List Event) (k : Nat) :
    let g := (Files.run { dir := { log := some f, tmp := t }, fds } ((Files.appendProgram classify f (linesOf encode evs)).take k)).dir.log
    g = some f ∨ g = some (repairTail classify f) ∨ g = some (appendFile classify encode f evs) :=
  Files.appendProgram_killed classify encode f t fds evs k

/-- the two write steps of the byte-level process model are what ergo's system calls produce: the rewrite, however chunked, puts the `replace`
    step's file under the log's name, and nothing before its rename, whatever the temporary file held; the completed append puts the `append`
    step's file there -/
theorem C03_model_write_steps_are_the_system_calls (s : ProcB.BSys) (evs : List Event) (hc : s.cur < s.files.length)
    (chunks : List Bytes) (hch : chunks.flatten = replaceFile (Codec.encodeEvent s.ets) evs) (stale : Option Bytes) (fds : Files.Fds) :
    ((Files.run { dir := { log := some s.file, tmp := stale }, fds } (Files.rewrite true chunks)).dir.log = some (ProcB.writeBytes s (.replace evs)).file ∧
     ∀ k, k < (Files.rewrite true chunks).length →
       (Files.run { dir := { log := some s.file, tmp := stale }, fds } ((Files.rewrite true chunks).take k)).dir.log = some s.file) ∧
    (Files.run { dir := { log := some s.file, tmp := stale }, fds }
        (Files.appendProgram Codec.classifyLine s.file (linesOf (Codec.encodeEvent s.ets) evs))).dir.log = some (ProcB.writeBytes s (.append evs)).file :=
  ⟨⟨by rw [Files.rewrite_complete, ProcB.file_writeBytes_replace, hch], fun k hk => Files.rewrite_killed _ true chunks k hk⟩,
    by rw [Files.appendProgram_result, ProcB.file_writeBytes_append s evs hc]⟩

end Ergo
