/-
  C01 — A ready task is handed to at most one claimant.
  Model: ErgoModel/Proc.lean (any number of processes, every interleaving of lock attempts, reads, writes, crashes).
-/
import ErgoProofs.Lemmas.Ready
import ErgoProofs.Lemmas.ProcBytesThm
namespace Ergo
open Proc

/-- a claimer that won was handed the head — the (created_at, id)-least element — of the ready list of the log as it was when its
    claim took effect, and wrote exactly claim + state=doing for it -/
theorem C01_claim_outcome {log0 : List Event} {ws : List (List Event → Except CmdErr Write)} {nr : Nat} {s : Sys}
    (h : Reachable (Sys.init log0 ws nr) s) (i p : Nat) (snap : List Event) (w : Write)
    (agent epic : String) (now : Time) (hd : ws[p]? = some (claimDecide agent epic now))
    (hc : s.commits[i]? = some (p, snap, w)) :
    snap = logAfter log0 s.commits i ∧
    ∃ g t rest, replay snap = .ok g ∧ readyTasks g epic = t :: rest ∧
      (∀ u ∈ readyTasks g epic, claimLe t u = true) ∧ t.isEpic = false ∧ isReady g t = true ∧
      w = .append [Event.claim t.id agent (some now), Event.state t.id .doing (some now)] := by
  obtain ⟨h1, g, t, rest, hg, hr, hw⟩ := claim_outcome h i p snap w agent epic now hd hc
  have ht := (mem_readyTasks g epic t).1 (hr ▸ List.mem_cons_self)
  exact ⟨h1, g, t, rest, hg, hr, readyTasks_head_min g epic t rest hr, ht.2.1, ht.2.2.1, hw⟩

/-- the same over bytes (ErgoModel/ProcBytes.lean, ergo's real line format; runs of `ProcB.BReachableNT`: see there): the log the winner
    decided on is what the file decoded to -/
theorem C01_claim_outcome_on_the_bytes (f : Storage.Bytes) (ws : List (List Event → Except CmdErr Write)) (nr limit : Nat) (ets : Event → String)
    (es : List Event) (hf : Storage.readEvents Codec.classifyLine limit f = .ok es) (hfw : Codec.AllWf es)
    (hw : ∀ d ∈ ws, ∀ snap wr, Codec.AllWf snap → d snap = .ok wr → Codec.AllWf wr.events)
    (s : ProcB.BSys) (h : ProcB.BReachableNT (ProcB.BSys.init f ws nr limit ets) s) (i p : Nat) (snap : List Event) (w : Write)
    (agent epic : String) (now : Time) (hd : ws[p]? = some (claimDecide agent epic now))
    (hc : s.commits[i]? = some (p, snap, w)) :
    snap = Proc.logAfter es s.commits i ∧
    ∃ g t rest, replay snap = .ok g ∧ readyTasks g epic = t :: rest ∧
      (∀ u ∈ readyTasks g epic, claimLe t u = true) ∧ t.isEpic = false ∧ isReady g t = true ∧
      w = .append [Event.claim t.id agent (some now), Event.state t.id .doing (some now)] :=
  C01_claim_outcome (ProcB.reach_abs hf hfw hw h).1 i p snap w agent epic now hd hc

/-- "nothing is ready" is answered only when the ready set of the log the claimer read under the lock is empty -/
theorem C01_no_ready_means_empty {log0 : List Event} {ws : List (List Event → Except CmdErr Write)} {nr : Nat} {s : Sys}
    (h : Reachable (Sys.init log0 ws nr) s) (p : Nat) (wtr : Writer) (snap : List Event)
    (agent epic : String) (now : Time) (hd : ws[p]? = some (claimDecide agent epic now))
    (hw : s.writers[p]? = some wtr) (hp : wtr.phase = .finished (.failed snap .noReady)) :
    ∃ g, replay snap = .ok g ∧ ∀ t ∈ g.tasks, ¬ (t.isEpic = false ∧ isReady g t = true ∧ (epic = "" ∨ t.epicId = epic)) := by
  have hi := inv_reachable h
  have hdec : wtr.decide = claimDecide agent epic now := Option.some.inj ((hi.dec p wtr hw).symm.trans hd)
  obtain ⟨g, hg, hr⟩ := (claimDecide_spec agent epic now snap).2 (hdec ▸ (hi.of_phase hw hp).2.1)
  exact ⟨g, hg, (readyTasks_nil_iff g epic).1 hr⟩

/-- a process that found the lock taken and gave up has no entry among the committed sections -/
theorem C01_busy_no_effect {log0 : List Event} {ws : List (List Event → Except CmdErr Write)} {nr : Nat} {s : Sys}
    (h : Reachable (Sys.init log0 ws nr) s) (p : Nat) (w : Writer) (hw : s.writers[p]? = some w)
    (hp : w.phase = .finished .busy) : ∀ c ∈ s.commits, c.1 ≠ p :=
  ((inv_reachable h).of_phase hw hp).2

/-- the later of two committed sections, of any writers, decided on what the earlier one left, with the writes committed in between applied
    (that two claimers were handed different tasks is not stated) -/
theorem C01_no_double {log0 : List Event} {ws : List (List Event → Except CmdErr Write)} {nr : Nat} {s : Sys}
    (h : Reachable (Sys.init log0 ws nr) s) (i j p q : Nat) (snapP snapQ : List Event) (wP wQ : Write)
    (hij : i < j) (hP : s.commits[i]? = some (p, snapP, wP)) (hQ : s.commits[j]? = some (q, snapQ, wQ)) :
    snapQ = (s.commits.take j |>.drop (i + 1)).foldl (fun l c => applyWrite l c.2.2) (applyWrite snapP wP) := by
  have hi := inv_reachable h
  rw [(hi.com j q snapQ wQ hQ).1, logAfter_le hij, logAfter_succ hP, ← (hi.com i p snapP wP hP).1]

/-- a writer holds the lock exactly while it is between lock and unlock; `holder` being one value, no two writers are there at once.
    That the holder is always one of the writers is not stated -/
theorem C01_mutual_exclusion {log0 : List Event} {ws : List (List Event → Except CmdErr Write)} {nr : Nat} {s : Sys}
    (h : Reachable (Sys.init log0 ws nr) s) (p : Nat) (w : Writer) (hw : s.writers[p]? = some w) :
    (s.holder = some p ↔ (w.phase = .locked ∨ (∃ snap, w.phase = .read snap) ∨ (∃ snap wr, w.phase = .wrote snap wr) ∨
                          (∃ snap e, w.phase = .erred snap e))) :=
  ((inv_reachable h).excl p w hw).trans (Phase.active_iff _)

end Ergo
