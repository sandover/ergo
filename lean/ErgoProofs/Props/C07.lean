/-
  C07 — The dependency graph stays acyclic, same-kind and between live items.
  After a CLI history the theorems conclude about `replay`, what a command reads; the two concurrent ones about `replayRaw` (`replay` without
  the legacy-title migration), as `secReach_allInv` under them does.  On a graph with the invariants the two agree (`replay_eq_raw`).
-/
import ErgoProofs.Lemmas.DiskInv
import ErgoProofs.Lemmas.DiskConc
namespace Ergo

/-- the cycle test is exact: `hasCycle g f t` ⇔ adding f→t would close a cycle (f = t or t ⇝ f; that this is what it takes on an acyclic
    graph: `acyclic_add_edge_iff`) -/
theorem C07_cycle_test_exact (g : Graph) (f t : Id) : hasCycle g f t = true ↔ f = t ∨ Path g.deps t f :=
  hasCycle_iff g f t

/-- after any sequence of commands: no cycle, no self-edge, edges only between live items of the same kind, none at a pruned id -/
theorem C07_inv_reach (log : List Event) (h : ReachOK log) :
    ∃ g, replay log = .ok g ∧ Inv07 g ∧ (∀ e ∈ g.deps, e.1 ≠ e.2) ∧ (∀ e ∈ g.deps, e.1 ∉ g.tombs ∧ e.2 ∉ g.tombs) := by
  obtain ⟨g, hr, hinv⟩ := reach_replay log h
  refine ⟨g, hr, hinv.i07, ?_, hinv.ok.wf.deps_not_tombed⟩
  intro e he hee
  have := hinv.i07.acyclic e.1 e.2 (by simpa using he)
  exact this (hee ▸ Path.refl e.1)

/-- … and after any interleaving of concurrent commands (in particular concurrent `sequence`s with opposite edges) -/
theorem C07_inv_concurrent (log0 : List Event) (envs : List (Env × Sec)) (nr : Nat) (s : Proc.Sys)
    (h : Proc.Reachable (Proc.Sys.init log0 (envs.map fun (es : Env × Sec) => secDecide es.1 es.2) nr) s)
    (h0 : SecReach log0) (hok : ∀ es ∈ envs, SecOK es.1 es.2)
    (hclock : ∀ (i p : Nat) (snap : List Event) (w : Write) (g : Graph), s.commits[i]? = some (p, snap, w) → replayRaw snap = .ok g →
               ∀ es : Env × Sec, envs[p]? = some es → EnvOK g es.1) :
    ∃ g, replayRaw s.log = .ok g ∧ Inv07 g := by
  obtain ⟨g, hr, hinv⟩ := secReach_allInv _ (conc_secReach log0 envs nr s h h0 hok hclock)
  exact ⟨g, hr, hinv.i07⟩

/-- an accepted edge request satisfies every rule; a request breaking one is refused -/
theorem C07_link_accepted_only_if (g : Graph) (f t : Id) (h : linkCheck g false f t = .ok ()) :
    g.tombed f = false ∧ g.tombed t = false ∧ f ≠ t ∧ ¬ Path g.deps t f ∧
    ∃ a b, g.find? f = some a ∧ g.find? t = some b ∧ a.isEpic = b.isEpic := by
  obtain ⟨hf, ht, hab, hne, hc⟩ := linkCheck_ok _ h
  exact ⟨hf, ht, hne, hc rfl, hab⟩

/-- replaying the event `unlink B A` removes exactly the edge B→A; about the event only (that `sequence rm A B` writes it: `sectionOf`,
    `linkEvents_unlink_ok`) -/
theorem C07_rm_exact (g : Graph) (a b : Id) (ha : g.tombed a = false) (hb : g.tombed b = false) :
    applyEvent g (.unlink b a true) = .ok { g with deps := g.deps.filter (· != (b, a)) } :=
  applyEvent_unlink g b a hb ha

/-- `depsOf` and `rdepsOf`, from which `show` takes an item's two lists (`C16_show_json_faithful`), mirror each other -/
theorem C07_mirror (g : Graph) (a b : Id) : a ∈ g.depsOf b ↔ b ∈ g.rdepsOf a := by
  rw [mem_depsOf, mem_rdepsOf]

/-- on disk: after any command history (`DiskReach`) the bytes of the store read back, in ergo's real line format, to a log whose graph is
    acyclic, same-kind and between live items -/
theorem C07_inv_holds_of_the_bytes_on_disk {limit : Nat} {log : List Event} {f : Storage.Bytes} (h : Codec.DiskReach limit log f) :
    ∃ g, Storage.readEvents Codec.classifyLine limit f = .ok log ∧ replay log = .ok g ∧ Inv07 g := by
  obtain ⟨g, hf, hr, hinv⟩ := Codec.disk_allInv h
  exact ⟨g, hf, hr, hinv.i07⟩

/-- … and under concurrency on the bytes: `C02_bytes_under_every_schedule_keep_the_invariants` for `Inv07` -/
theorem C07_inv_concurrent_on_disk (f : Storage.Bytes) (log0 : List Event) (envs : List (Env × Sec)) (nr limit : Nat)
    (ets : Event → String) (hf : Storage.readEvents Codec.classifyLine limit f = .ok log0) (hfw : Codec.AllWf log0) (h0 : SecReach log0)
    (hok : ∀ es ∈ envs, SecOK es.1 es.2) (hT : ∀ es ∈ envs, Codec.EnvT es.1)
    (s : ProcB.BSys) (h : ProcB.BReachableNT (ProcB.BSys.init f (envs.map fun (es : Env × Sec) => secDecide es.1 es.2) nr limit ets) s)
    (hclock : ∀ (i p : Nat) (snap : List Event) (w : Write) (g : Graph), s.commits[i]? = some (p, snap, w) → replayRaw snap = .ok g →
               ∀ es : Env × Sec, envs[p]? = some es → EnvOK g es.1) :
    ∃ L g, Storage.readEvents Codec.classifyLine limit s.file = .ok L ∧ replayRaw L = .ok g ∧ Inv07 g := by
  obtain ⟨L, g, hl, hg, hinv⟩ := ProcB.conc_disk_allInv f log0 envs nr limit ets hf hfw h0 hok hT s h hclock
  exact ⟨L, g, hl, hg, hinv.i07⟩

end Ergo
