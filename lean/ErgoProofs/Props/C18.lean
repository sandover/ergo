/-
  C18 — Every command finds the same store, and init never hides data.
  Model: ErgoModel/Path.lean; the file system is a parameter `fs : path → Kind` (symlinks not modelled).
-/
import ErgoProofs.Lemmas.PathThm
namespace Ergo
open Path

/-- discovery reads a `--dir` spelling only through `absPath cwd`.  Which spellings (relative, trailing slash, `.`, `..`) share an `absPath`
    is not proved; the `.ergo` directory itself is not a spelling of its parent (the walk serves it) -/
theorem C18_spelling_independent (fs : P → Kind) (cwd s1 s2 : P) (h : absPath cwd s1 = absPath cwd s2) :
    resolveErgoDir fs cwd s1 = resolveErgoDir fs cwd s2 := by
  unfold resolveErgoDir
  rw [h]

/-- what the walk returns is an existing directory `.ergo` directly under the start directory or an ancestor of it, and the nearest such.
    Of `resolveWalk` at any fuel: that the fuel `resolveErgoDir` gives it suffices, and that function's fallback, are not covered -/
theorem C18_nearest_enclosing (fs : P → Kind) (n : Nat) (start d : P) (h : resolveWalk fs n start = some (.ok d)) :
    fs d = .dir ∧ ∃ k, d = join [iterDir k start, ergoName] ∧ ∀ j, j < k → fs (join [iterDir j start, ergoName]) = .missing := by
  fun_induction resolveWalk fs n start with
  | case2 n cur cand hd =>  -- found here
    exact Except.ok.inj (Option.some.inj h) ▸ ⟨hd, 0, rfl, nofun⟩
  | case4 n cur cand hm _ ih =>  -- nothing here, the walk goes on from the parent
    obtain ⟨hd, k, hk, hj⟩ := ih h
    exact ⟨hd, k + 1, hk, fun j hlt => by cases j with | zero => exact hm | succ j => exact hj j (by omega)⟩
  | _ => cases h

/-- which file holds the log.  That all commands read and write this one is T1 `log_name_uses` (`getEventsPath` is the only place in the
    source that builds a log path), not a theorem -/
theorem C18_one_log_file (plans events : Bool) :
    eventsFile plans events = (if plans then "plans.jsonl" else if events then "events.jsonl" else "plans.jsonl") := rfl

/-- `init` on a store that has a log file never changes which file holds the log, whichever of the three files are present -/
theorem C18_init_hides_nothing (plans events lock : Bool) (h : plans = true ∨ events = true) :
    let (p', e', _) := initFiles plans events lock
    eventsFile p' e' = eventsFile plans events :=
  init_keeps_log plans events lock h

/-- `init` is idempotent, and recreates a missing lock file -/
theorem C18_init_idempotent (plans events lock : Bool) :
    let (p', e', l') := initFiles plans events lock
    initFiles p' e' l' = (p', e', l') ∧ l' = true := by
  cases plans <;> cases events <;> cases lock <;> simp [initFiles]

end Ergo
