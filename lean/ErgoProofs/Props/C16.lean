/-
  C16 — --json output is a single value and tells the truth.
  "Exactly one JSON value" is about print sites: T1 (stdout_sites) and the strict-parse oracle.  Proved here: what success values report is
  what the next read shows (`plan`'s reply has no theorem; `compact`'s carries nothing).  The store before a command is `replayRaw log = .ok g`
  with `AllInv g`; the next read is `replay` (`replayRaw`, then the legacy-title migration; they agree on a graph with the invariants:
  `replay_eq_raw`), except in the three theorems about a section's write `w`, which read `replayRaw (applyWrite log w)`.  The printed
  values are `replyOf`, `listJson`, `showJson` (ErgoModel.View), tied to the real stdout by T2-cmd / T2-view.
-/
import ErgoProofs.Lemmas.ViewThm
import ErgoProofs.Lemmas.StepGraphLinks
namespace Ergo

/-- a command that exits non-zero wrote nothing -/
theorem C16_error_means_no_write (log : List Event) (env : Env) (req : Request) (e : CmdErr)
    (h : (runCmd log env req).err = some e) : (runCmd log env req).write = none :=
  (runCmd_err_unchanged log env req e h).2

/-- a created id is fresh: not live, not pruned, one of the RNG's draws; and a following read shows the item -/
theorem C16_created_id_fresh_and_visible (log : List Event) (g : Graph) (hg : replayRaw log = .ok g) (hinv : AllInv g)
    (env : Env) (henv : EnvOK g env) (isEpic : Bool) (epicId title body : String) (follow : SetReq) (w : Write) (out : SecOut)
    (ht : Text.isBlank title = false)
    (h : runSec log env (.create isEpic epicId title body follow) = .ok (w, out)) :
    ∃ id, out.created = some id ∧ g.has id = false ∧ g.tombed id = false ∧ id ∈ env.ids ∧
      ∃ g', replayRaw (applyWrite log w) = .ok g' ∧ g'.has id = true :=
  have _ := henv; have _ := ht  -- neither is needed
  created_id_fresh_and_visible log g hg hinv env isEpic epicId title body follow w out h

/-- `claim` reports the task it claimed: after the write that task is doing and claimed by exactly the reported agent -/
theorem C16_claim_reply_true (log : List Event) (g : Graph) (hg : replayRaw log = .ok g) (hinv : AllInv g)
    (env : Env) (henv : EnvOK g env) (hag : env.agent ≠ "") (epic : Id) (w : Write) (out : SecOut)
    (h : runSec log env (.claimOldest epic) = .ok (w, out)) :
    ∃ t, out.claimed = some t ∧ ∃ g' t', replayRaw (applyWrite log w) = .ok g' ∧ g'.find? t.id = some t' ∧
      t'.st = .doing ∧ t'.claimedBy = env.agent :=
  have _ := henv; have _ := hag  -- neither is needed
  claim_reply_true log g hg hinv env epic w out h

/-- `prune --yes` reports exactly the ids that are gone afterwards -/
theorem C16_prune_reply_true (log : List Event) (g : Graph) (hg : replayRaw log = .ok g) (hinv : AllInv g)
    (env : Env) (henv : EnvOK g env) (w : Write) (out : SecOut)
    (h : runSec log env (.prune true) = .ok (w, out)) :
    out.pruned = pruneTargets g ∧ ∃ g', replayRaw (applyWrite log w) = .ok g' ∧
      (∀ i ∈ out.pruned, g'.has i = false) ∧ (∀ t ∈ g.tasks, t.id ∉ out.pruned → g'.has t.id = true) :=
  have _ := henv  -- not needed
  prune_reply_true log g hg hinv env w out h

/-- a command that writes nothing either reports an error or is the documented "no ready tasks" answer of `claim` -/
theorem C16_no_write_means_error (log : List Event) (env : Env) (req : Request) (h : (runCmd log env req).write = none)
    (hne : ∀ e, req ≠ .claimOldest e) : (runCmd log env req).err ≠ none :=
  no_write_means_error log env req h hne

/-- `set --json` that succeeded prints the state and claimant the task has after the command -/
theorem C16_set_reply_is_next_read (log : List Event) (g : Graph) (hg : replayRaw log = .ok g) (hinv : AllInv g)
    (env : Env) (henv : EnvOK g env) (id : Id) (i : RawInput)
    (h : (runCmd log env (.set id i)).err = none) :
    ∃ g' t', replay (runCmd log env (.set id i)).log = .ok g' ∧ g'.find? id = some t' ∧
      replyOf env (.set id i) (runCmd log env (.set id i)) = some (.set id (updatedFields i) t'.st t'.claimedBy) := by
  obtain ⟨sec, w, o, hs, hr, hres⟩ := runCmd_ok_cases h nofun
  obtain ⟨r, rfl⟩ := sectionOf_ok _ hs
  obtain ⟨t, evs, hf, -, -, hg', hinv'⟩ := runSec_update_spec hg hinv hr
  have hf' := Graph.update_find?_self hf (foldl_stepTask_id evs)
  have hrep := replay_eq_raw hg' (hinv' henv).ok
  rw [hres]
  exact ⟨_, _, hrep, hf', by simp only [replyOf, hrep, hf', Option.map]⟩

/-- `claim <id> --json` that succeeded: the task is `doing`, claimed by the caller, and the reply says so -/
theorem C16_claim_id_reply_is_next_read (log : List Event) (g : Graph) (hg : replayRaw log = .ok g) (hinv : AllInv g)
    (env : Env) (henv : EnvOK g env) (id : Id)
    (h : (runCmd log env (.claim id)).err = none) :
    ∃ g' t', replay (runCmd log env (.claim id)).log = .ok g' ∧ g'.find? id = some t' ∧
      t'.st = .doing ∧ t'.claimedBy = env.agent ∧
      replyOf env (.claim id) (runCmd log env (.claim id)) =
        some (.claimed id t'.epicId .doing t'.title t'.body env.agent (claimedAt t')) := by
  obtain ⟨sec, w, o, hs, hr, hres⟩ := runCmd_ok_cases h nofun
  obtain ⟨hag, rfl⟩ := sectionOf_ok _ hs
  obtain ⟨t, evs, hf, hu, -, hg', hinv'⟩ := runSec_update_spec hg hinv hr
  have hf' := Graph.update_find?_self hf (foldl_stepTask_id evs)
  have hrep := replay_eq_raw hg' (hinv' henv).ok
  cases claim_update_events hag hu
  have htid : t.id = id := (Graph.mem_of_find? hf).2
  rw [hres]
  refine ⟨_, _, hrep, hf', rfl, rfl, ?_⟩
  simp only [replyOf, hrep, hf', Option.map]
  simp [List.foldl, stepTask, St.clearsClaim, htid, claimedAt]

/-- `new task|epic --json`: every field of the reply is the stored item's field (in particular `state` after `new … state=/claim=`) -/
theorem C16_created_reply_is_next_read (log : List Event) (g : Graph) (hg : replayRaw log = .ok g) (hinv : AllInv g)
    (env : Env) (henv : EnvOK g env) (i : RawInput) (isTask : Bool)
    (h : (runCmd log env (if isTask then .newTask i else .newEpic i)).err = none) :
    let res := runCmd log env (if isTask then .newTask i else .newEpic i)
    ∃ g' t', replay res.log = .ok g' ∧ res.out.created = some t'.id ∧ g'.find? t'.id = some t' ∧
      replyOf env (if isTask then .newTask i else .newEpic i) res =
        some (.created t'.isEpic t'.id t'.uuid t'.epicId t'.st t'.title t'.body t'.createdAt) := by
  obtain ⟨sec, w, o, hs, hr, hres⟩ := runCmd_ok_cases h (by cases isTask <;> exact nofun)
  obtain ⟨isEpic, epicId, title, body, follow, rfl, htitle, hfo⟩ : ∃ a, IsNewSec a sec := by
    cases isTask with
    | true => exact ⟨_, sectionOf_ok _ hs⟩
    | false => exact ⟨_, sectionOf_ok _ hs⟩
  dsimp only
  rw [hres]
  exact create_sec_reply log g hg hinv env henv isEpic epicId title body follow w o htitle hfo hr i isTask

/-- `claim --json` (oldest ready) that wrote: the reply is the head of the ready list as stored afterwards (its `claimed_at`, the section's
    clock reading, is not compared with the stored one) -/
theorem C16_claim_oldest_reply_is_next_read (log : List Event) (g : Graph) (hg : replayRaw log = .ok g) (hinv : AllInv g)
    (env : Env) (henv : EnvOK g env) (hag : env.agent ≠ "") (epic : Id)
    (hw : (runCmd log env (.claimOldest epic)).write ≠ none) :
    let res := runCmd log env (.claimOldest epic)
    ∃ t g' t', (readyTasks g epic).head? = some t ∧ replay res.log = .ok g' ∧ g'.find? t.id = some t' ∧
      t'.st = .doing ∧ t'.claimedBy = env.agent ∧ t'.title = t.title ∧ t'.body = t.body ∧ t'.epicId = t.epicId ∧
      replyOf env (.claimOldest epic) res = some (.claimed t.id t.epicId .doing t.title t.body env.agent env.now) := by
  obtain ⟨sec, w, o, hs, hr, hres⟩ := (runCmd_cases log env (.claimOldest epic)).resolve_left fun h' => hw h'.2.1
  obtain ⟨-, rfl⟩ := sectionOf_ok _ hs
  obtain ⟨t, rest, hrd, hf, hc, hnow, rfl, hg', hinv'⟩ := runSec_claimOldest_spec hg hinv hr
  dsimp only
  rw [hres]
  refine ⟨t, _, _, by rw [hrd]; rfl, replay_eq_raw hg' (hinv' hag henv).ok,
    Graph.update_find?_self hf (foldl_stepTask_id _), rfl, rfl, rfl, rfl, rfl, ?_⟩
  simp [replyOf, hc, hnow]

/-- `claim --json` that exits 0 without writing replies `no_ready`, and the ready list is empty -/
theorem C16_no_ready_reply (log : List Event) (g : Graph) (hg : replayRaw log = .ok g) (hinv : AllInv g)
    (env : Env) (hag : env.agent ≠ "") (epic : Id)
    (herr : (runCmd log env (.claimOldest epic)).err = none) (hw : (runCmd log env (.claimOldest epic)).write = none) :
    replyOf env (.claimOldest epic) (runCmd log env (.claimOldest epic)) = some .noReady ∧ readyTasks g epic = [] := by
  refine ⟨by simp only [replyOf, herr, hw], ?_⟩
  have hrep := replay_eq_raw hg hinv.ok
  have hag' : (env.agent == "") = false := by simpa using hag
  -- a ready task would have been claimed, and the claim written
  cases hrd : readyTasks g epic with
  | nil => rfl
  | cons t rest => simp [runCmd, sectionOf, runSec, hrep, secClaimOldest, hrd, hag', Except.map] at hw

/-- `prune --json`: `pruned_ids` is the policy's set, dry run or not -/
theorem C16_prune_reply_is_policy (log : List Event) (g : Graph) (hg : replayRaw log = .ok g) (hinv : AllInv g)
    (env : Env) (yes : Bool) :
    replyOf env (.prune yes) (runCmd log env (.prune yes)) = some (.pruned (!yes) (pruneTargets g)) := by
  simp [replyOf, runCmd, sectionOf, runSec, replay_eq_raw hg hinv.ok, secPrune]

/-- `sequence --json`: every edge the reply lists is in the graph afterwards (link) / absent afterwards (rm) -/
theorem C16_sequence_reply_is_next_read (log : List Event) (g : Graph) (hg : replayRaw log = .ok g) (hinv : AllInv g)
    (env : Env) (henv : EnvOK g env) (args : List String)
    (h : (runCmd log env (.sequence args)).err = none) :
    ∃ un es g', replyOf env (.sequence args) (runCmd log env (.sequence args)) = some (.sequence un es) ∧
      replay (runCmd log env (.sequence args)).log = .ok g' ∧
      ∀ e ∈ es, (e ∈ g'.deps) = !un := by
  have _ := henv  -- not needed
  obtain ⟨sec, w, o, hs, hr, hres⟩ := runCmd_ok_cases h nofun
  obtain ⟨un, es, rfl, hrep⟩ := sequence_sec_reply env args sec _ hs h
  obtain ⟨g', hg', hinv', -, -, hdeps⟩ := runSec_links_spec hg hinv hr
  refine ⟨un, es, g', hrep, by rw [hres]; exact replay_eq_raw hg' hinv'.ok, fun e he => ?_⟩
  rw [hdeps]
  cases un <;> simp [he]

/-- `list --json --all` shows every live task exactly once, by its own record and the graph's flags; default = unfinished; `--ready` = ready list -/
theorem C16_list_json_faithful (g : Graph) (hwf : GraphOK g) :
    (((listJson g { showAll := true }).map (·.id)).Perm ((g.tasks.filter fun t => !t.isEpic).map (·.id)) ∧
      ∀ i ∈ listJson g { showAll := true }, ∃ t ∈ g.tasks, t.isEpic = false ∧ i = listItem g t) ∧
    (∀ i, i ∈ listJson g {} ↔ ∃ t ∈ g.tasks, t.isEpic = false ∧ t.st.closed = false ∧ i = listItem g t) ∧
    (∀ i, i ∈ listJson g { readyOnly := true } ↔ ∃ t ∈ readyTasks g "", i = listItem g t) ∧
    (∀ t, (listItem g t).ready = isReady g t ∧ (listItem g t).blocked = isBlocked g t ∧ (listItem g t).st = t.st ∧
      (listItem g t).claimedBy = t.claimedBy) :=
  have _ := hwf  -- not needed
  ⟨listJson_all g, listJson_default g, listJson_ready g, fun t => listItem_flags g t⟩

/-- `show --json`: a pruned id is refused as pruned, a live one is shown as itself; dependencies are shown from both ends -/
theorem C16_show_json_faithful (g : Graph) (hwf : GraphOK g) :
    (∀ id, g.tombed id = true → showJson g id = .error (.pruned id)) ∧
    (∀ t ∈ g.tasks, g.tombed t.id = false → ∃ o, showJson g t.id = .ok o ∧ (o = .item (showItem g t) ∨ ∃ kids, o = .epic (showItem g t) kids)) ∧
    (∀ a b : Task, b.id ∈ (showItem g a).deps ↔ a.id ∈ (showItem g b).rdeps) ∧
    (∀ (a : Task) d, d ∈ (showItem g a).deps ↔ (a.id, d) ∈ g.deps) :=
  ⟨showJson_pruned g, fun t ht _ => showJson_live g hwf.wf t ht, fun a b => show_mirror g a b, fun a d => show_deps_iff g a d⟩

end Ergo
