/-
  C05 — compact changes nothing a reader can see.
-/
import ErgoProofs.Lemmas.WireWf
import ErgoProofs.Lemmas.StorageRead
import ErgoProofs.Lemmas.ReachInv
namespace Ergo

/-- for every history the CLI can produce, replaying the compacted log succeeds, every live item's observable data (`obsTask`) and the edge set
    are identical, pruned ids stay absent (no tombstone and no item), and every invariant still holds -/
theorem C05_observables_preserved (log : List Event) (h : ReachOK log) :
    ∃ g g', replay log = .ok g ∧ replay (compactEvents g) = .ok g' ∧ ObsEq g' g ∧ g'.tombs = [] ∧
      (∀ i ∈ g.tombs, g'.has i = false) ∧ AllInv g' := by
  obtain ⟨g, hr, hinv, h1, hobs⟩ := reach_compact log h
  refine ⟨g, compacted g, hr, h1, hobs, rfl, fun i hi => ?_, hinv.compacted⟩
  exact Graph.has_false_iff.2 (forall_mem_compacted.2 fun t ht heq => hinv.ok.wf.live_not_tombed t ht (heq ▸ hi))

/-- two graphs with the same observables (`ObsEq`: a store and its compaction) give an item the same ready / blocked flags -/
theorem C05_flags_preserved (g g' : Graph) (hwf : WF g) (hwf' : WF g') (h : ObsEq g g') (t t' : Task)
    (ht : t ∈ g.tasks) (ht' : t' ∈ g'.tasks) (hid : t.id = t'.id) :
    isReady g t = isReady g' t' ∧ isBlocked g t = isBlocked g' t' :=
  h.ready_blocked hwf hwf' t t' (h.of_same_id hwf hwf' t t' ht ht' hid)

/-- and `claim` would hand out their tasks in the same order -/
theorem C05_claim_order_preserved (g g' : Graph) (hwf : WF g) (hwf' : WF g') (h : ObsEq g g') (epic : Id) :
    (readyTasks g epic).map (·.id) = (readyTasks g' epic).map (·.id) := by
  have hk : (readyTasks g epic).map claimKey = (readyTasks g' epic).map claimKey := by
    rw [readyTasks_keys, readyTasks_keys]
    exact mergeSort_eq_of_perm keyLe keyLe_trans keyLe_total (fun a _ b _ => keyLe_antisymm a b)
      ((List.perm_ext_iff_of_nodup (readyKeys_nodup g hwf epic) (readyKeys_nodup g' hwf' epic)).mpr fun k =>
        ⟨h.readyKeys_sub hwf hwf' epic k, h.symm.readyKeys_sub hwf' hwf epic k⟩)
  have := congrArg (List.map (·.2)) hk
  simpa only [List.map_map, Function.comp_def, claimKey] using this

/-- compacting an already compacted log changes nothing: the event list is identical -/
theorem C05_idempotent (log : List Event) (h : ReachOK log) (g g' : Graph) (hr : replay log = .ok g)
    (hr' : replay (compactEvents g) = .ok g') : compactEvents g' = compactEvents g := by
  obtain ⟨_, h0, hinv, h1, _⟩ := reach_compact log h
  cases hr.symm.trans h0
  cases h1.symm.trans hr'
  exact compactEvents_compacted g hinv.ok'

/-- the log compaction leaves is again `ReachOK` (by definition, `ReachOK.step`), so `reach_replay` covers whatever is issued after it -/
theorem C05_compaction_is_a_reachable_step (log : List Event) (h : ReachOK log) (g : Graph) (hg : replayRaw log = .ok g)
    (env : Env) (henv : EnvOK g env) : ReachOK (runCmd log env .compact).log :=
  ReachOK.step env .compact h hg henv

/-- a tail torn by a crash is invisible to `readEvents`; about the reader only, the one `compact` loads the log with -/
theorem C05_torn_tail_irrelevant {classify : Storage.Bytes → Storage.LineClass} {limit : Nat} (f frag : Storage.Bytes)
    (hcl : Storage.Closed f) (hnl : Storage.NL ∉ frag) (hne : frag ≠ []) (hbad : classify (Storage.dropCR frag) = .bad)
    (hlen : frag.length < limit) :
    Storage.readEvents classify limit (f ++ frag) = Storage.readEvents classify limit f :=
  Storage.readEvents_fragment hcl hnl hne hbad hlen

/-- from a log of well-formed events every event `compact` emits is well-formed, so (C12/C17) each of its lines decodes to the event it was
    written for -/
theorem C05_compaction_writes_recoverable_events (log : List Event) (hl : Codec.AllWf log) (g : Graph) (h : replay log = .ok g) :
    Codec.AllWf (compactEvents g) :=
  Codec.compactEvents_wf g (Codec.replay_wf log hl g h)

/-- a time stamp written out parses to the same instant; about `Time.format` / `Time.parse` only (C12), here because compaction re-writes
    every stamp from its parsed value -/
theorem C05_time_stamps_survive (t : Time) (h : t < Time.maxT) : Time.parse (Time.format t) = some t :=
  Time.parse_format t h

/-- for every task, also one outside `ReachOK` that carries a claimant in a state that clears claims (a `claim` cut before its state line),
    replaying the block compaction writes for it gives back state and claimant: the state event comes before the claim event (DESIGN §6) -/
theorem C05_state_and_claimant_survive_for_every_task (t : Task) :
    (rebuild t).st = t.st ∧ (rebuild t).claimedBy = t.claimedBy := by
  rw [rebuild_eq]; exact ⟨rfl, rfl⟩

/-- a CLI-reachable log plus the whole claim line of a claim cut inside its write (its state line lost: a todo task with a claimant, outside
    `ReachOK`): compaction still changes nothing a reader can see, that task's claimant and claim time included (DESIGN §6) -/
theorem C05_half_written_claim_preserved (log : List Event) (h : ReachOK log) (id agent : Id) (ts : Time) (hts : ts ≠ 0) :
    ∃ g g', replay (log ++ [Event.claim id agent (some ts)]) = .ok g ∧ replay (compactEvents g) = .ok g' ∧ ObsEq g' g ∧ g'.tombs = [] := by
  obtain ⟨g0, hr0, hinv⟩ := reach_allInv log h
  -- the replay of the longer log still has `GraphOK'`: all that `compact_replay` asks
  suffices ∃ g, replayRaw (log ++ [.claim id agent (some ts)]) = .ok g ∧ GraphOK' g by
    obtain ⟨g, hr, hok⟩ := this
    obtain ⟨g', h1, hobs, ht, _⟩ := compact_replay g hok
    exact ⟨g, g', replay_eq_raw hr hok.toGraphOK, h1, hobs, ht⟩
  cases ht : g0.tombed id
  · -- not pruned: the claim is applied (to no effect if the id is not live); it touches `claimedBy` and `lastClaim` only
    let g := g0.update id fun k => [Event.claim id agent (some ts)].foldl stepTask k
    have hr : replayRaw (log ++ [.claim id agent (some ts)]) = .ok g :=
      replayRaw_applyAppend hr0 (foldlM_updates g0 id _ ht fun _ he => List.mem_singleton.1 he ▸ rfl)
    have hwf : WF g := WF_update (foldl_stepTask_id _) hinv.ok.wf
    have hok : ∀ t ∈ g.tasks, TaskOK' t := Graph.forall_mem_update hinv.ok'.tasks id fun _ hk => { hk with claimTime := fun _ => hts }
    exact ⟨g, hr, hwf, hok⟩
  · -- pruned: replay skips the claim
    exact ⟨g0, replayRaw_applyAppend hr0 (foldlM_cons_ok [] (if_pos ht)), hinv.ok'⟩

/-- with no hypothesis beyond "the event loop succeeds" (hand-merged logs, stamps in any order, torn claims): replaying the compacted log
    succeeds, every item keeps what `Task.core` lists (see there) and the edges are the same.  `compact` compacts `replay log`, which is `g`
    unless an item's title is blank.  Not in `Task.core`, and able to move on such logs: `updated_at`, a claim time recorded as zero, the
    `epic_id` an `epic` event gave an epic; tombstones go (DESIGN §6) -/
theorem C05_items_survive_compaction_of_any_log (log : List Event) (g : Graph) (hr : replayRaw log = .ok g) :
    ∃ g', replayRaw (compactEvents g) = .ok g' ∧ (∀ id, (g'.find? id).map Task.core = (g.find? id).map Task.core) ∧
      (∀ e, e ∈ g'.deps ↔ e ∈ g.deps) ∧ g'.tombs = [] := by
  have hwf := replayRaw_WF hr
  exact ⟨compacted g, replayRaw_compact g hwf, compacted_find_map Task.core g hwf fun t _ => rebuildX_core t,
    fun _ => List.mem_mergeSort, rfl⟩

end Ergo
