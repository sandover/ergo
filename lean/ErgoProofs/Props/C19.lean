/-
  C19 — The human list is a complete, well-formed picture of the same state.
  Model: ErgoModel/Render.lean.  Width is go-runewidth's per-character width (cells), text assumed free of escape sequences and multi-rune
  grapheme clusters (the check measures real output too).  `C19_row_width` and `C19_single_row` speak of any `RowIn` (the pieces of one
  line), the completeness theorems of `rows g v : List Row` (views without `--epic`): what makes a `RowIn` of a `Row` is not modelled.
  The summary counts (`Render.stats`) have no theorem.
-/
import ErgoProofs.Lemmas.RenderLayout
import ErgoProofs.Lemmas.RenderRows
import ErgoProofs.Lemmas.DiskInv
namespace Ergo
open Render

/-- every row fits the terminal and ends with its item's id in the same right-hand column, whatever title, claimant and blocker text
    contain; for terminals that hold prefix+icon, the gaps, the id and the margin (`hW`) -/
theorem C19_row_width (ell : Cell) (hell : ell.w = 1) (r : RowIn) (hid : ∀ c ∈ r.id, c.w = 1)
    (hW : r.width ≥ visLen (singleLine r.base) + r.id.length + 6) (hbase : singleLine r.base = r.base) :
    ∃ left, formatTreeLine ell r = left ++ r.id ∧ visLen left = r.width - 2 - r.id.length ∧
      visLen (formatTreeLine ell r) = r.width - 2 :=
  row_width ell hell r hid hW hbase

/-- one item, one row: no newline, tab or other control character of a title / claimant / blocker text reaches the row -/
theorem C19_single_row (ell : Cell) (hell : isControl ell.ch = false) (r : RowIn)
    (hbase : ∀ c ∈ r.base, isControl c.ch = false) (hid : ∀ c ∈ r.id, isControl c.ch = false) :
    ∀ c ∈ formatTreeLine ell r, isControl c.ch = false := by
  intro c hc
  rcases mem_formatTreeLine hc with h | h | h | h | h | rfl | rfl
  · exact hbase c h
  · exact hid c h
  · exact mem_singleLine h
  · exact mem_singleLine h
  · exact mem_singleLine h
  · decide
  · exact hell

/-- truncation cuts between cells, the model's whole characters (bytes, and so UTF-8 validity, are not modelled); of `abbreviateKeep`
    (blocker names), which counts whole characters by construction, only that it keeps at most all of them (how many bytes: `abbreviateKeep_bytes`) -/
theorem C19_whole_characters (ell : Cell) (s : Str) (m : Int) (lens : List Nat) (maxLen : Nat) :
    (truncateToWidth ell s m = [] ∨ truncateToWidth ell s m = s ∨ ∃ p, p <+: s ∧ truncateToWidth ell s m = p ++ [ell]) ∧
    abbreviateKeep lens maxLen ≤ lens.length :=
  ⟨truncate_prefix ell s m, abbreviateKeep_le lens maxLen⟩

/-- sibling order (Kahn) loses nobody -/
theorem C19_sibling_order_complete (g : Graph) (tasks : List Task) (hnd : (tasks.map (·.id)).Nodup) (hac : Acyclic g.deps) :
    (topoSort g tasks).Perm tasks :=
  topoSort_perm g tasks hnd hac

/-- with the all view (`list --all`) every live item of every reachable store appears on exactly one row -/
theorem C19_all_complete (log : List Event) (h : ReachOK log) :
    ∃ g, replay log = .ok g ∧ ((rows g .all).map (·.id)).Perm (g.tasks.map (·.id)) := by
  obtain ⟨g, hr, hinv⟩ := reach_replay log h
  exact ⟨g, hr, rows_all hinv.ok.wf hinv.i07 hinv.i14⟩

/-- the default view shows every active task exactly once -/
theorem C19_default_shows_active_once (log : List Event) (h : ReachOK log) :
    ∃ g, replay log = .ok g ∧ ∀ t ∈ g.tasks, t.isEpic = false → t.st.closed = false → ((rows g .active).map (·.id)).count t.id = 1 := by
  obtain ⟨g, hr, hinv⟩ := reach_replay log h
  exact ⟨g, hr, rows_active hinv.ok.wf hinv.i07 hinv.i14⟩

/-- the ready view (`list --ready`) shows exactly the ready tasks -/
theorem C19_ready_exact (log : List Event) (h : ReachOK log) :
    ∃ g, replay log = .ok g ∧ ∀ t ∈ g.tasks, t.isEpic = false → (t.id ∈ (rows g .ready).map (·.id) ↔ isReady g t = true) := by
  obtain ⟨g, hr, hinv⟩ := reach_replay log h
  exact ⟨g, hr, rows_ready hinv.ok.wf hinv.i07 hinv.i14⟩

/-- a row has a tree glyph exactly if its item is a task with an epic -/
theorem C19_glyphs (g : Graph) (v : View) (hwf : WF g) (h14 : Inv14 g) (hid : ∀ t ∈ g.tasks, t.id ≠ "") (r : Row) (hr : r ∈ rows g v) :
    ∃ t ∈ g.tasks, t.id = r.id ∧ (r.child = true ↔ (t.isEpic = false ∧ t.epicId ≠ "")) := by
  have _ := hwf; have _ := h14; have _ := hid  -- none of the three is needed
  have hm : (r.id, r.child) ∈ (rows g v).map fun r => (r.id, r.child) := List.mem_map.2 ⟨r, hr, rfl⟩
  rw [rows_eq_tree, List.mem_map] at hm
  obtain ⟨x, hx, he⟩ := hm
  obtain ⟨hid, hc⟩ := Prod.mk.inj he
  exact ⟨x, tree_subset (List.mem_filter.1 hx).1, hid, by simp [← hc]⟩

/-- the picture is one of the *file*: `C19_all_complete` and `C19_ready_exact` of the log the bytes of the store decode to after any
    command history (`Codec.DiskReach`: see there) -/
theorem C19_list_of_the_bytes_on_disk_is_complete {limit : Nat} {log : List Event} {f : Storage.Bytes} (h : Codec.DiskReach limit log f) :
    ∃ g, Storage.readEvents Codec.classifyLine limit f = .ok log ∧ replay log = .ok g ∧
      ((rows g .all).map (·.id)).Perm (g.tasks.map (·.id)) ∧
      ∀ t ∈ g.tasks, t.isEpic = false → (t.id ∈ (rows g .ready).map (·.id) ↔ isReady g t = true) := by
  obtain ⟨g, hf, hr, hinv⟩ := Codec.disk_allInv h
  exact ⟨g, hf, hr, rows_all hinv.ok.wf hinv.i07 hinv.i14,
    rows_ready hinv.ok.wf hinv.i07 hinv.i14⟩

end Ergo
