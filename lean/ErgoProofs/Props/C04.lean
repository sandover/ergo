/-
  C04 — Multi-event commands are all-or-nothing across process death (kill between two system calls).
  Every command is one lock section whose events go to the log in one write(2) (append) or by temporary file + rename (plan, compact): a kill
  between system calls sees the file before the write/rename or after it.  T3 (strace) checks the one-write shape on every run.
-/
import ErgoProofs.Lemmas.ReachInv
import ErgoProofs.Lemmas.CodecThm
import ErgoProofs.Lemmas.StorageThm
namespace Ergo
open Storage

variable {W : Event → Prop} {classify : Bytes → LineClass} {encode : Event → Bytes} {limit : Nat}

/-- the files a kill between two system calls of an appending command can leave under the log's name; that `appendEvents` leaves these three and
    no other is `C03_append_killed_between_calls` -/
inductive AppendCrashState (classify : Bytes → LineClass) (encode : Event → Bytes) (f : Bytes) (evs : List Event) : Bytes → Prop where
  | before : AppendCrashState classify encode f evs f
  | repaired : AppendCrashState classify encode f evs (repairTail classify f)
  | after : AppendCrashState classify encode f evs (appendFile classify encode f evs)

/-- a reader of any such file sees exactly the events before the command or exactly those after it -/
theorem C04_append_all_or_nothing (hc : CodecOn W classify encode) (f g : Bytes) (es evs : List Event)
    (hr : readEvents classify limit f = .ok es) (hs : Short W encode limit evs)
    (h : AppendCrashState classify encode f evs g) :
    readEvents classify limit g = .ok es ∨ readEvents classify limit g = .ok (es ++ evs) := by
  cases h with
  | before => exact Or.inl hr
  | repaired => exact Or.inl (readEvents_repairTail hr)
  | after => exact Or.inr (appendFile_reads hc hr hs).1

/-- plan / compact: the log name points to the complete old file until the rename and to the complete new one after it -/
theorem C04_replace_all_or_nothing (hc : CodecOn W classify encode) (f : Bytes) (es evs : List Event)
    (hr : readEvents classify limit f = .ok es) (hs : Short W encode limit evs) (renamed : Bool) :
    readEvents classify limit (if renamed then replaceFile encode evs else f) = .ok (if renamed then evs else es) := by
  cases renamed
  · simpa using hr
  · simpa [replaceFile] using readEvents_linesOf hc hs

/-- the log before a command and the log after it both replay to a graph in which no task is claimed-but-todo or doing-but-unclaimed; no kill
    occurs in the statement: by the two theorems above these are the logs a kill between two system calls can leave visible -/
theorem C04_no_half_claim (log : List Event) (h : ReachOK log) (env : Env) (req : Request) (g : Graph) (henv : EnvOK g env)
    (hg : replayRaw log = .ok g) :
    (∃ g0, replay log = .ok g0 ∧ Inv06 g0) ∧ (∃ g1, replay (runCmd log env req).log = .ok g1 ∧ Inv06 g1) := by
  refine ⟨?_, ?_⟩
  · obtain ⟨g0, h0, hi⟩ := reach_replay log h; exact ⟨g0, h0, hi.i06⟩
  · obtain ⟨g1, h1, hi⟩ := reach_replay _ (ReachOK.step env req h hg henv); exact ⟨g1, h1, hi.i06⟩


/-- in ergo's line format: a multi-event append killed between two of its system calls shows all of the batch or none of it -/
theorem C04_append_all_or_nothing_json (ets : Event → String) (f g : Bytes) (es evs : List Event)
    (hr : readEvents Codec.classifyLine limit f = .ok es) (hs : Short Codec.Wf (Codec.encodeEvent ets) limit evs)
    (hk : AppendCrashState Codec.classifyLine (Codec.encodeEvent ets) f evs g) :
    readEvents Codec.classifyLine limit g = .ok es ∨ readEvents Codec.classifyLine limit g = .ok (es ++ evs) :=
  C04_append_all_or_nothing (Codec.jsonCodec ets) f g es evs hr hs hk

end Ergo
