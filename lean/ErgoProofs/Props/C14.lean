/-
  C14 — Every task's epic reference names a live epic.
  The property's second half (so every live task remains visible under its epic in every list view) is where `Inv14` is used: `C19_all_complete`.
-/
import ErgoProofs.Lemmas.DiskInv
import ErgoProofs.Lemmas.DiskConc
namespace Ergo

/-- at all times each task's epic is empty or the id of a live epic (`WF g`: no live item is pruned); epics belong to nothing -/
theorem C14_inv_reach (log : List Event) (h : ReachOK log) : ∃ g, replay log = .ok g ∧ Inv14 g ∧ WF g := by
  obtain ⟨g, hr, hinv⟩ := reach_replay log h
  exact ⟨g, hr, hinv.i14, hinv.ok.wf⟩

/-- updating a task with an epic id that is pruned, unknown, or the id of a plain task is rejected (`hres` is not used) -/
theorem C14_set_rejects_bad_epic (g : Graph) (t : Task) (e : Id) (r : SetReq) (agent : String) (po : PathOutcome) (now : Time)
    (ht : t.isEpic = false) (he : e ≠ "") (hr : r.u.epic = some e) (hres : r.resultPath = none)
    (hbad : g.tombed e = true ∨ g.find? e = none ∨ ∃ x, g.find? e = some x ∧ x.isEpic = false) :
    ∃ err, updateEvents g t r agent po now = .error err :=
  set_rejects_bad_epic g t e r agent po now ht he hr hres hbad

/-- creating a task under an id that is not live (unknown, or under `WF g` pruned: `WF.live_not_tombed`) or is a plain task's is rejected -/
theorem C14_create_rejects_bad_epic (g : Graph) (epicId title body : String) (follow : SetReq) (ids : List Id) (uuid agent : String)
    (po : PathOutcome) (now : Time) (he : epicId ≠ "")
    (hbad : g.find? epicId = none ∨ ∃ x, g.find? epicId = some x ∧ x.isEpic = false) :
    ∃ err, secCreate g false epicId title body follow ids uuid agent po now = .error err :=
  create_rejects_bad_epic g epicId title body follow ids uuid agent po now he hbad

/-- prune never removes an epic that a remaining task still references -/
theorem C14_prune_keeps_referenced_epics (g : Graph) (hwf : WF g) (t e : Task) (ht : t ∈ g.tasks) (he : e ∈ g.tasks)
    (hte : t.isEpic = false) (hee : e.isEpic = true) (href : t.epicId = e.id) (hne : e.id ≠ "")
    (hkeep : t.id ∉ pruneTargets g) : e.id ∉ pruneTargets g :=
  prune_keeps_referenced_epics g hwf t e ht he hte hee href hne hkeep

/-- the invariant holds of what is on disk after any command history (`Codec.DiskReach`: see there), read in the real line format -/
theorem C14_inv_holds_of_the_bytes_on_disk {limit : Nat} {log : List Event} {f : Storage.Bytes} (h : Codec.DiskReach limit log f) :
    ∃ g, Storage.readEvents Codec.classifyLine limit f = .ok log ∧ replay log = .ok g ∧ Inv14 g := by
  obtain ⟨g, hf, hr, hinv⟩ := Codec.disk_allInv h
  exact ⟨g, hf, hr, hinv.i14⟩

/-- "at all times" includes concurrent runs on the bytes (e.g. `prune` racing `new task --epic`):
    `C02_bytes_under_every_schedule_keep_the_invariants` for `Inv14` -/
theorem C14_inv_concurrent_on_disk (f : Storage.Bytes) (log0 : List Event) (envs : List (Env × Sec)) (nr limit : Nat)
    (ets : Event → String) (hf : Storage.readEvents Codec.classifyLine limit f = .ok log0) (hfw : Codec.AllWf log0) (h0 : SecReach log0)
    (hok : ∀ es ∈ envs, SecOK es.1 es.2) (hT : ∀ es ∈ envs, Codec.EnvT es.1)
    (s : ProcB.BSys) (h : ProcB.BReachableNT (ProcB.BSys.init f (envs.map fun (es : Env × Sec) => secDecide es.1 es.2) nr limit ets) s)
    (hclock : ∀ (i p : Nat) (snap : List Event) (w : Write) (g : Graph), s.commits[i]? = some (p, snap, w) → replayRaw snap = .ok g →
               ∀ es : Env × Sec, envs[p]? = some es → EnvOK g es.1) :
    ∃ L g, Storage.readEvents Codec.classifyLine limit s.file = .ok L ∧ replayRaw L = .ok g ∧ Inv14 g := by
  obtain ⟨L, g, hl, hg, hinv⟩ := ProcB.conc_disk_allInv f log0 envs nr limit ets hf hfw h0 hok hT s h hclock
  exact ⟨L, g, hl, hg, hinv.i14⟩

end Ergo
