/-
  C09 — prune removes exactly finished work; pruned ids are gone for good.
-/
import ErgoProofs.Lemmas.Prune
import ErgoProofs.Lemmas.ReplayInv
import ErgoProofs.Lemmas.Sections
namespace Ergo

/-- prune selects exactly the done/canceled tasks and the epics left without an unfinished child -/
theorem C09_policy (g : Graph) (id : Id) :
    id ∈ pruneTargets g ↔
      ∃ t ∈ g.tasks, t.id = id ∧
        ((t.isEpic = false ∧ (t.st = .done ∨ t.st = .canceled)) ∨
         (t.isEpic = true ∧ ∀ c ∈ g.tasks, c.isEpic = false → c.epicId ≠ "" → c.epicId = t.id → (c.st = .done ∨ c.st = .canceled))) :=
  mem_pruneTargets g id

/-- never a task in todo, doing, blocked or error -/
theorem C09_never_active (g : Graph) (hwf : WF g) (t : Task) (ht : t ∈ g.tasks) (hne : t.isEpic = false)
    (hst : t.st = .todo ∨ t.st = .doing ∨ t.st = .blocked ∨ t.st = .error) : t.id ∉ pruneTargets g := by
  intro hmem
  obtain ⟨u, hu, hid, h⟩ := (mem_pruneTargets g t.id).1 hmem
  cases eq_of_id_eq hwf.nodup hu ht hid
  rcases h with ⟨_, h | h⟩ | ⟨h, _⟩
  · simp [h] at hst
  · simp [h] at hst
  · simp [hne] at h

/-- the dry run reports exactly the set `--yes` reports (and removes: `C16_prune_reply_true`), and writes nothing -/
theorem C09_dry_run_same_set (g : Graph) (agent : String) (now : Time) :
    (secPrune g false agent now).2 = (secPrune g true agent now).2 ∧ (secPrune g false agent now).1 = .append [] := by
  simp [secPrune]

/-- whatever the order of a pruned id's create / update / link / tombstone events in a hand-merged log, and whatever follows, it is not live
    and no edge mentions it -/
theorem C09_gone (evs more : List Event) (g : Graph) (id agent : Id) (ts : Option Time)
    (hmem : Event.tombstone id agent ts ∈ evs) (h : replay (evs ++ more) = .ok g) :
    g.has id = false ∧ (∀ e ∈ g.deps, e.1 ≠ id ∧ e.2 ≠ id) :=
  let ⟨h1, h2, _⟩ := tombstone_gone (List.mem_append_left _ hmem) h
  ⟨h1, h2⟩

/-- `set` / `claim <id>` on a pruned id and a `sequence` edge from it, link or rm, are refused as pruned (`hid` from a tombstone in the log:
    `tombstone_gone`) -/
theorem C09_refused (g : Graph) (id : Id) (hid : g.tombed id = true) (r : SetReq) (agent : String) (po : PathOutcome) (now : Time) (other : Id) :
    secUpdate g id r agent po now = .error (.pruned id) ∧
    linkCheck g false id other = .error (.pruned id) ∧ linkCheck g true id other = .error (.pruned id) := by
  simp [secUpdate, linkCheck, hid, bind, Except.bind, throw, throwThe, MonadExceptOf.throw]

/-- `new` never issues a pruned id again while its tombstone is in the log: the id picked is not pruned, not live, one of the RNG's draws
    (the ids of `plan`: `drawIds_spec`) -/
theorem C09_never_reissued (g : Graph) (isEpic : Bool) (epicId title body : String) (follow : SetReq) (ids : List Id) (uuid agent : String)
    (po : PathOutcome) (now : Time) (w : Write) (id : Id)
    (h : secCreate g isEpic epicId title body follow ids uuid agent po now = .ok (w, id)) :
    g.tombed id = false ∧ g.has id = false ∧ id ∈ ids := by
  obtain ⟨hid, ⟨htomb, hhas⟩, -⟩ := secCreate_ok _ h
  exact ⟨htomb, hhas, hid⟩

end Ergo
