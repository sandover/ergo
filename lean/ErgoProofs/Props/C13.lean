/-
  C13 — Readers never fail or see garbage while writers are active.
  Readers take no lock: they open the file the log's name points to and read it; writers append a batch with one write(2) or rename a
  complete new file over the name (ErgoModel/Proc.lean).  Then the same over bytes (ProcBytes.lean), the torn tail and the reader read by
  read (Storage.lean), the reader's traced program (Program.lean).  Trusted: a reader sees a single write(2) entirely or not at all.
-/
import ErgoProofs.Lemmas.ProgramThm
import ErgoProofs.Lemmas.DiskConc
namespace Ergo
open Proc

/-- what a reader that has finished read is the log after some whole number of committed sections: a state the store passed through,
    never a mixture of an old and a new file -/
theorem C13_reader_sees_a_past_state {log0 : List Event} {ws : List (List Event → Except CmdErr Write)} {nr : Nat} {s : Sys}
    (h : Reachable (Sys.init log0 ws nr) s) (r : Nat) (seen : List Event)
    (hr : s.readers[r]? = some (.done seen)) : ∃ k, k ≤ s.commits.length ∧ seen = logAfter log0 s.commits k :=
  have hi := inv_reachable h
  mem_logs.1 (hi.hist ▸ hi.rdDone seen (List.mem_of_getElem? hr))

/-- with ergo's lock sections as the writers, what a reader that has finished read satisfies every invariant -/
theorem C13_reader_state_is_valid (log0 : List Event) (envs : List (Env × Sec)) (nr : Nat) (s : Sys)
    (h : Reachable (Sys.init log0 (envs.map fun (es : Env × Sec) => secDecide es.1 es.2) nr) s)
    (h0 : SecReach log0) (hok : ∀ es ∈ envs, SecOK es.1 es.2)
    (hclock : ∀ (i p : Nat) (snap : List Event) (w : Write) (g : Graph), s.commits[i]? = some (p, snap, w) → replayRaw snap = .ok g →
               ∀ es : Env × Sec, envs[p]? = some es → EnvOK g es.1)
    (r : Nat) (seen : List Event) (hr : s.readers[r]? = some (.done seen)) :
    ∃ g, replay seen = .ok g ∧ AllInv g := by
  obtain ⟨k, hk, rfl⟩ := C13_reader_sees_a_past_state h r seen hr
  obtain ⟨g, hg, hinv⟩ := secReach_allInv _ (conc_secReach_prefix log0 envs nr s h h0 hok hclock k hk)
  exact ⟨g, replay_eq_raw hg hinv.ok, hinv⟩

/-- the ghost history is exactly the sequence of log values -/
theorem C13_history_is_the_sequence_of_logs {log0 : List Event} {ws : List (List Event → Except CmdErr Write)} {nr : Nat} {s : Sys}
    (h : Reachable (Sys.init log0 ws nr) s) :
    s.history.length = s.commits.length + 1 ∧ ∀ k, k ≤ s.commits.length → s.history[k]? = some (logAfter log0 s.commits k) :=
  (inv_reachable h).hist ▸ ⟨length_logs, fun _ => getElem?_logs⟩

/-- `C13_reader_sees_a_past_state` for a reader of *bytes*, writers dying between their calls (runs of `ProcB.BReachableNT`: see there) -/
theorem C13_byte_reader_sees_a_past_state (f : Storage.Bytes) (ws : List (List Event → Except CmdErr Write)) (nr limit : Nat) (ets : Event → String)
    (es : List Event) (hf : Storage.readEvents Codec.classifyLine limit f = .ok es) (hfw : Codec.AllWf es)
    (hw : ∀ d ∈ ws, ∀ snap wr, Codec.AllWf snap → d snap = .ok wr → Codec.AllWf wr.events)
    (s : ProcB.BSys) (h : ProcB.BReachableNT (ProcB.BSys.init f ws nr limit ets) s) (r : Nat) (seen : List Event)
    (hr : s.readers[r]? = some (.done seen)) :
    ∃ k, k ≤ s.commits.length ∧ seen = Proc.logAfter es s.commits k :=
  C13_reader_sees_a_past_state (ProcB.reach_abs hf hfw hw h).1 r seen hr

/-- `C13_reader_state_is_valid` for a reader of *bytes* (runs of `ProcB.BReachableNT`): `list` / `show` never work on a state the store was
    not in, and never on a broken one -/
theorem C13_byte_reader_state_is_valid (f : Storage.Bytes) (log0 : List Event) (envs : List (Env × Sec)) (nr limit : Nat)
    (ets : Event → String) (hf : Storage.readEvents Codec.classifyLine limit f = .ok log0) (hfw : Codec.AllWf log0) (h0 : SecReach log0)
    (hok : ∀ es ∈ envs, SecOK es.1 es.2) (hT : ∀ es ∈ envs, Codec.EnvT es.1)
    (s : ProcB.BSys) (h : ProcB.BReachableNT (ProcB.BSys.init f (envs.map fun (es : Env × Sec) => secDecide es.1 es.2) nr limit ets) s)
    (hclock : ∀ (i p : Nat) (snap : List Event) (w : Write) (g : Graph), s.commits[i]? = some (p, snap, w) → replayRaw snap = .ok g →
               ∀ es : Env × Sec, envs[p]? = some es → EnvOK g es.1)
    (r : Nat) (seen : List Event) (hr : s.readers[r]? = some (.done seen)) :
    ∃ g, replay seen = .ok g ∧ AllInv g :=
  C13_reader_state_is_valid log0 envs nr (ProcB.abs s) (ProcB.reach_abs hf hfw (ProcB.secDecide_wf hT) h).1 h0 hok hclock r seen hr

/-- byte level: a reader that catches a writer killed inside its write sees everything from before plus whole lines only -/
theorem C13_torn_tail_is_dropped {W : Event → Prop} {classify : Storage.Bytes → Storage.LineClass} {encode : Event → Storage.Bytes} {limit : Nat}
    (hc : Storage.CodecOn W classify encode) (f : Storage.Bytes) (es evs : List Event) (k : Nat)
    (hr : Storage.readEvents classify limit f = .ok es) (hs : Storage.Short W encode limit evs) :
    ∃ n, n ≤ evs.length ∧ Storage.readEvents classify limit (Storage.appendTorn classify encode f evs k) = .ok (es ++ evs.take n) :=
  Storage.appendTorn_reads hc k hr hs

/-- `C13_torn_tail_is_dropped` for ergo's actual line format -/
theorem C13_torn_tail_is_dropped_json (ets : Event → String) {limit : Nat} (f : Storage.Bytes) (es evs : List Event) (k : Nat)
    (hr : Storage.readEvents Codec.classifyLine limit f = .ok es) (hs : Storage.Short Codec.Wf (Codec.encodeEvent ets) limit evs) :
    ∃ n, n ≤ evs.length ∧
      Storage.readEvents Codec.classifyLine limit (Storage.appendTorn Codec.classifyLine (Codec.encodeEvent ets) f evs k) = .ok (es ++ evs.take n) :=
  C13_torn_tail_is_dropped (Codec.jsonCodec ets) f es evs k hr hs

/-! ### read by read — why `Proc.Step.rRead` may hand a reader the whole file in one step

The real reader collects the file in several `read(2)` calls while writers go on.  That is the same because the bytes of an open file never
change: writers only add at the end of the log, and everything else (`plan`, `compact`, dropping a killed writer's fragment) goes to a new
file renamed over it (T1 `truncate_sites`, T3 "no ftruncate on the live log"). -/

/-- read by read from a file that only grows: what the reader holds is a prefix of the file's last content -/
theorem C13_chunked_reader_sees_a_prefix (vs : List (Storage.Bytes × Nat)) (h : Storage.GrowsOnly (vs.map (·.1))) (hne : vs ≠ []) :
    Storage.chunkedRead vs [] <+: (vs.getLast hne).1 :=
  (Storage.chunkedRead_spec vs [] h hne List.nil_prefix).1

/-- the reader holds all of the file's last content if its last read asked for more bytes than that has -/
theorem C13_chunked_reader_complete (vs : List (Storage.Bytes × Nat)) (h : Storage.GrowsOnly (vs.map (·.1))) (hne : vs ≠ [])
    (heof : (vs.getLast hne).2 > (vs.getLast hne).1.length) :
    Storage.chunkedRead vs [] = (vs.getLast hne).1 :=
  (Storage.chunkedRead_spec vs [] h hne List.nil_prefix).2 (Nat.le_of_lt heof)

/-- read by read while a batch is appended to a file that is empty or ends in '\n': a reader that got all of the old file (`hall`) decodes
    everything from before plus whole events of the batch, never an error (the model's `readEvents` looks for the final '\n' in the bytes
    it is given, the real one once, when it opens the file) -/
theorem C13_chunked_reader_of_append {W : Event → Prop} {classify : Storage.Bytes → Storage.LineClass} {encode : Event → Storage.Bytes} {limit : Nat}
    (hc : Storage.CodecOn W classify encode) (f : Storage.Bytes) (es evs : List Event)
    (hr : Storage.readEvents classify limit f = .ok es) (hs : Storage.Short W encode limit evs) (hnl : f.isEmpty ∨ Storage.endsWithNL f = true)
    (vs : List (Storage.Bytes × Nat)) (hne : vs ≠ [])
    (hfirst : ∀ v ∈ vs, f <+: v.1 ∧ v.1 <+: Storage.appendFile classify encode f evs) (hgrow : Storage.GrowsOnly (vs.map (·.1)))
    (hall : f <+: Storage.chunkedRead vs []) :
    ∃ n, n ≤ evs.length ∧ Storage.readEvents classify limit (Storage.chunkedRead vs []) = .ok (es ++ evs.take n) := by
  open Storage in
  have hp : chunkedRead vs [] <+: appendFile classify encode f evs :=
    (C13_chunked_reader_sees_a_prefix vs hgrow hne).trans (hfirst _ (List.getLast_mem hne)).2
  obtain ⟨t, ht⟩ := hall
  have hrep := repairTail_of_closed classify (closed_iff.2 hnl)
  rw [← ht, appendFile, hrep, List.prefix_append_right_inj] at hp
  -- so what the reader holds is the file of a writer killed `t.length` bytes into its write
  have heq : chunkedRead vs [] = appendTorn classify encode f evs t.length := by
    rw [← ht, appendTorn, hrep, ← List.prefix_iff_eq_take.1 hp]
  rw [heq]
  exact appendTorn_reads hc t.length hr hs

/-- the defect repaired by 961c71f: if a writer may shrink the open file in place, a reader can hold bytes that never were the file's
    content nor a prefix of it -/
theorem C13_in_place_truncation_refuted :
    ∃ (v0 v1 : Storage.Bytes) (n0 n1 : Nat), ¬ (v0 <+: v1) ∧
      Storage.chunkedRead [(v0, n0), (v1, n1)] [] ≠ v0 ∧ Storage.chunkedRead [(v0, n0), (v1, n1)] [] ≠ v1 ∧
      ¬ (Storage.chunkedRead [(v0, n0), (v1, n1)] [] <+: v1) :=
  -- the reader ends up with the torn fragment followed by the middle of the next batch
  ⟨[1, 2, 3, 4], [1, 2, 9, 9, 9, 9, 9], 4, 10, by decide⟩

/-- a reader's observed program (accepted by `readerOK`, T3) takes no lock and changes nothing -/
theorem C13_reader_program_is_pure (p : List Program.Call) (h : Program.readerOK p = true) :
    Program.abstract p = [] ∧ (∀ c ∈ p, Program.mutatesLog c = false) := by
  open Program in
  obtain ⟨_, hl, -, -, -, -, hm⟩ := readerOK_parts p h
  -- no lock call at all, so neither `flockEx true` nor `flockEx false` is in `p`
  have hno : ∀ ok, ¬ p.contains (Call.flockEx ok) = true := fun ok hc => by
    cases hl _ (List.contains_iff_mem.mp hc)
  refine ⟨?_, fun c hc => (hm c hc).1⟩
  unfold abstract
  rw [if_neg (hno true), if_neg (hno false)]

end Ergo
