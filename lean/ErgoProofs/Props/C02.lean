/-
  C02 — Concurrent commands are serializable; acknowledged writes are never lost.
  The process model (ErgoModel/Proc.lean: any number of processes, every interleaving, crashes) and the same over bytes (ProcBytes); then what
  its atomic steps rest on: the system-call programs are lock sections (Program; `writerOK`, `busyOK`, `readerOK` are checked against strace
  on every run, T3), the lock is a flock on a file name (LockFile), `init` beside a writer (Files).
-/
import ErgoProofs.Lemmas.ProgramThm
import ErgoProofs.Lemmas.LockFileThm
import ErgoProofs.Lemmas.FilesThm
import ErgoProofs.Lemmas.DiskConc
namespace Ergo
open Proc

/-- the log is the committed sections applied in the order of their write steps (`commits`); that this is lock order and agrees with real time
    is how the model is built, not part of the statement -/
theorem C02_log_is_serial_fold {log0 : List Event} {ws : List (List Event → Except CmdErr Write)} {nr : Nat} {s : Sys}
    (h : Reachable (Sys.init log0 ws nr) s) : s.log = logAfter log0 s.commits s.commits.length :=
  (inv_reachable h).log

/-- each committed section decided on exactly the log its predecessors left: no lost update, no stale read -/
theorem C02_each_commit_decided_on_predecessors {log0 : List Event} {ws : List (List Event → Except CmdErr Write)} {nr : Nat} {s : Sys}
    (h : Reachable (Sys.init log0 ws nr) s) (i p : Nat) (snap : List Event) (w : Write)
    (hc : s.commits[i]? = some (p, snap, w)) :
    snap = logAfter log0 s.commits i ∧ ∃ d, ws[p]? = some d ∧ d snap = .ok w :=
  (inv_reachable h).com i p snap w hc

/-- every acknowledged mutation is in effect exactly once -/
theorem C02_acknowledged_exactly_once {log0 : List Event} {ws : List (List Event → Except CmdErr Write)} {nr : Nat} {s : Sys}
    (h : Reachable (Sys.init log0 ws nr) s) (p : Nat) (w : Writer) (snap : List Event) (wr : Write)
    (hw : s.writers[p]? = some w) (hp : w.phase = .finished (.ok snap wr)) :
    (p, snap, wr) ∈ s.commits ∧
    ∀ (i j : Nat) (c c' : List Event × Write), s.commits[i]? = some (p, c) → s.commits[j]? = some (p, c') → i = j := by
  refine ⟨((inv_reachable h).of_phase hw hp).2, fun i j c c' hi hj => ?_⟩
  have nodup : (s.commits.map (·.1)).Nodup := List.pairwise_map.2 (inv_reachable h).once
  exact (List.getElem?_inj (by simpa using (List.getElem?_eq_some_iff.1 hi).1) nodup).1 (by simp [hi, hj])

/-- a command that failed — lock busy included — contributed nothing -/
theorem C02_failed_contributes_nothing {log0 : List Event} {ws : List (List Event → Except CmdErr Write)} {nr : Nat} {s : Sys}
    (h : Reachable (Sys.init log0 ws nr) s) (p : Nat) (w : Writer) (hw : s.writers[p]? = some w)
    (hp : w.phase = .finished .busy ∨ ∃ snap e, w.phase = .finished (.failed snap e)) : ∀ c ∈ s.commits, c.1 ≠ p := by
  rcases hp with hp | ⟨snap, e, hp⟩
  · exact ((inv_reachable h).of_phase hw hp).2
  · exact ((inv_reachable h).of_phase hw hp).2.2

/-- any interleaving, crashes included, of processes each running one of ergo's lock sections leaves a log that a serial run of the committed
    sections produces (`conc_secReach`), so every invariant holds; `hclock`: each section's clock and ids suit the log it read -/
theorem C02_serializable_invariants (log0 : List Event) (envs : List (Env × Sec)) (nr : Nat) (s : Sys)
    (h : Reachable (Sys.init log0 (envs.map fun (es : Env × Sec) => secDecide es.1 es.2) nr) s)
    (h0 : SecReach log0) (hok : ∀ es ∈ envs, SecOK es.1 es.2)
    (hclock : ∀ (i p : Nat) (snap : List Event) (w : Write) (g : Graph), s.commits[i]? = some (p, snap, w) → replayRaw snap = .ok g →
               ∀ es : Env × Sec, envs[p]? = some es → EnvOK g es.1) :
    ∃ g, replayRaw s.log = .ok g ∧ AllInv g :=
  secReach_allInv _ (conc_secReach log0 envs nr s h h0 hok hclock)

/-- every CLI command is exactly one lock section -/
theorem C02_one_section_per_command (log : List Event) (env : Env) (req : Request) (w : Write)
    (h : (runCmd log env req).write = some w) :
    ∃ sec out, sectionOf env.agent req = .ok sec ∧ runSec log env sec = .ok (w, out) ∧ (runCmd log env req).log = applyWrite log w :=
  runCmd_write h

/-- a run of the byte-level system (writers and readers, any schedule, deaths between system calls; runs of `ProcB.BReachableNT`: see there)
    is a run of the process model on the decoded files -/
theorem C02_bytes_refine_the_process_model {a b : ProcB.BSys} (h : ProcB.BReachableNT a b) (ha : ProcB.Inv a) :
    Proc.Reachable (ProcB.abs a) (ProcB.abs b) ∧ ProcB.Inv b :=
  ProcB.reach_sim h ha

/-- `C02_log_is_serial_fold` of the bytes under the log's name, decoded -/
theorem C02_bytes_are_the_serial_fold (f : Storage.Bytes) (ws : List (List Event → Except CmdErr Write)) (nr limit : Nat) (ets : Event → String)
    (es : List Event) (hf : Storage.readEvents Codec.classifyLine limit f = .ok es) (hfw : Codec.AllWf es)
    (hw : ∀ d ∈ ws, ∀ snap wr, Codec.AllWf snap → d snap = .ok wr → Codec.AllWf wr.events)
    (s : ProcB.BSys) (h : ProcB.BReachableNT (ProcB.BSys.init f ws nr limit ets) s) :
    Storage.readEvents Codec.classifyLine limit s.file = .ok (Proc.logAfter es s.commits s.commits.length) := by
  obtain ⟨hr, hinv, rfl⟩ := ProcB.reach_abs hf hfw hw h
  exact (inv_reachable hr).log ▸ hinv.reads.1

/-- with ergo's own lock sections as the writers, under every schedule (runs of `ProcB.BReachableNT`) the log's file reads back to
    a log whose graph has the state/claim, dependency and epic invariants -/
theorem C02_bytes_under_every_schedule_keep_the_invariants (f : Storage.Bytes) (log0 : List Event) (envs : List (Env × Sec)) (nr limit : Nat)
    (ets : Event → String) (hf : Storage.readEvents Codec.classifyLine limit f = .ok log0) (hfw : Codec.AllWf log0) (h0 : SecReach log0)
    (hok : ∀ es ∈ envs, SecOK es.1 es.2) (hT : ∀ es ∈ envs, Codec.EnvT es.1)
    (s : ProcB.BSys) (h : ProcB.BReachableNT (ProcB.BSys.init f (envs.map fun (es : Env × Sec) => secDecide es.1 es.2) nr limit ets) s)
    (hclock : ∀ (i p : Nat) (snap : List Event) (w : Write) (g : Graph), s.commits[i]? = some (p, snap, w) → replayRaw snap = .ok g →
               ∀ es : Env × Sec, envs[p]? = some es → EnvOK g es.1) :
    ∃ L g, Storage.readEvents Codec.classifyLine limit s.file = .ok L ∧ replayRaw L = .ok g ∧ Inv06 g ∧ Inv07 g ∧ Inv14 g := by
  obtain ⟨L, g, hl, hg, hinv⟩ := ProcB.conc_disk_allInv f log0 envs nr limit ets hf hfw h0 hok hT s h hclock
  exact ⟨L, g, hl, hg, hinv.i06, hinv.i07, hinv.i14⟩

/-- a program accepted by `writerOK` changes the log only between its successful `flock(LOCK_EX|LOCK_NB)` and its `flock(LOCK_UN)`, and looks at
    the log's content only after it holds the lock -/
theorem C02_program_mutations_inside_the_lock (p : List Program.Call) (h : Program.writerOK p = true) :
    ∃ s, Program.split p = some s ∧ (∀ c ∈ s.before, Program.mutatesLog c = false) ∧ (∀ c ∈ s.after, Program.mutatesLog c = false) ∧
      (∀ c ∈ s.before, Program.readsLog c = false) := by
  open Program in
    obtain ⟨_, s, hs, hb, _, ha⟩ := writerOK_parts p h
    exact ⟨s, hs, fun c hc => (hb c hc).1, fun c hc => (ha c hc).1, fun c hc => (hb c hc).2.1⟩

/-- inside the section: read before change, at most one write(2) to the live log, no in-place truncation or unlink -/
theorem C02_program_body (p : List Program.Call) (h : Program.writerOK p = true) :
    ∃ s, Program.split p = some s ∧ Program.logWrites s.inside ≤ 1 ∧ Program.Call.truncate .log ∉ s.inside ∧ Program.Call.unlink .log ∉ s.inside ∧
      (∀ pre c post, s.inside = pre ++ c :: post → Program.mutatesLog c = true → (∀ x ∈ pre, Program.mutatesLog x = false) → ∃ r ∈ pre, Program.readsLog r = true) := by
  open Program in
    obtain ⟨_, s, hs, _, hbody, _⟩ := writerOK_parts p h
    exact ⟨s, hs, bodyOK_parts _ hbody⟩

/-- a program accepted by `writerOK` abstracts to lock, a write only after a read, unlock; `Program.Abs` is named after the steps of the process
    model, but no `Proc.Step` occurs in the statement -/
theorem C02_program_refines_the_process_model (p : List Program.Call) (h : Program.writerOK p = true) :
    (Program.abstract p = [.lockOk, .read, .write, .unlock] ∨ Program.abstract p = [.lockOk, .read, .noWrite, .unlock] ∨ Program.abstract p = [.lockOk, .noWrite, .unlock]) := by
  open Program in
    obtain ⟨_, s, hs, _, hbody, _⟩ := writerOK_parts p h
    obtain ⟨e, _, _⟩ := split_decompose p s hs
    have hc : p.contains (Call.flockEx true) = true := by
      apply List.contains_iff_mem.mpr; rw [e]; simp
    unfold abstract
    rw [if_pos hc, hs]
    cases hm : s.inside.any mutatesLog with
    | true =>
      have hr := bodyOK_mut_read _ hbody hm
      left; simp [hm, hr]
    | false =>
      cases hr : s.inside.any readsLog with
      | true => right; left; simp [hm, hr]
      | false => right; right; simp [hm, hr]

/-- a program that found the lock taken neither read nor wrote the log -/
theorem C02_busy_program_does_nothing (p : List Program.Call) (h : Program.busyOK p = true) :
    Program.abstract p = [.lockBusy] ∧ (∀ c ∈ p, Program.mutatesLog c = false ∧ Program.readsLog c = false) := by
  open Program in
    obtain ⟨_, hrefused, hnolock, hpure⟩ := busyOK_parts p h
    refine ⟨?_, fun c hc => ⟨(hpure c hc).1, (hpure c hc).2.1⟩⟩
    unfold abstract
    rw [if_neg (mt List.contains_iff_mem.mp hnolock), if_pos (List.contains_iff_mem.mpr hrefused)]

/-- no accepted program opens the temporary file without `O_TRUNC` or the log for writing without `O_APPEND`, as C03's results on
    `ErgoModel.Files` need -/
theorem C02_program_open_flags (p : List Program.Call)
    (h : Program.writerOK p = true ∨ Program.busyOK p = true ∨ Program.readerOK p = true) : ∀ c ∈ p, c ≠ .openBad := by
  rintro c hc rfl
  cases (Program.discipline_kept p h _ hc).2

/-- no accepted program gives the name `.ergo/lock` to another file, unlinks or truncates it (a missing one is created in place): what makes
    the process model's one `holder` a model of `flock` on a name -/
theorem C02_lock_file_keeps_its_identity (p : List Program.Call)
    (h : Program.writerOK p = true ∨ Program.busyOK p = true ∨ Program.readerOK p = true) :
    ∀ c ∈ p, Program.mutatesLock c = false :=
  fun c hc => (Program.discipline_kept p h c hc).1

/-- the lock file there or not (then several may create it at once), any processes, schedule and deaths: at most one is inside a lock section -/
theorem C02_one_process_inside_whatever_the_lock_file (name : Option Nat) (fresh n : Nat) (s : LockFile.LSys)
    (h : LockFile.LReachable (LockFile.LSys.init name fresh n) s) {p q : Nat} (hp : s.inside p) (hq : s.inside q) : p = q :=
  LockFile.exclusive (LockFile.inv_reachable (LockFile.inv_init name fresh n) h) hp hq

/-- the non-blocking flock answers like the guards of the process model's `lockOk` / `lockBusy`: it succeeds iff nobody is inside -/
theorem C02_flock_succeeds_iff_nobody_inside (name : Option Nat) (fresh n : Nat) (s : LockFile.LSys)
    (h : LockFile.LReachable (LockFile.LSys.init name fresh n) s) {p i : Nat} (hp : s.procs[p]? = some (LockFile.Ph.opened i)) :
    s.holder i = none ↔ ∀ q, ¬ s.inside q :=
  LockFile.flock_free_iff (LockFile.inv_reachable (LockFile.inv_init name fresh n) h) hp

/-- the name `.ergo/lock`, once it exists, keeps its inode for ever (no step of ergo renames onto it or removes it) -/
theorem C02_lock_name_keeps_its_inode {a s : LockFile.LSys} (h : LockFile.LReachable a s) {i : Nat} (hn : a.name = some i) :
    s.name = some i := by
  open LockFile in
    induction h with
    | refl => exact hn
    | tail _ st ih => exact name_kept st ih

/-- what "never replaced" is worth: were the missing lock file created under another name and renamed into place, two processes could be
    inside at once -/
theorem C02_create_by_rename_would_break_exclusion :
    ∃ s, LockFile.RReachable (LockFile.LSys.init none 7 2) s ∧ s.inside 0 ∧ s.inside 1 := by
  open LockFile in
    -- both see the file missing; 0 creates, opens, locks; 1 creates by rename (new inode), opens, locks
    have run : RReachable (LSys.init none 7 2)
        { name := some 8, fresh := 9, holder := setHolder (setHolder (fun _ => none) 7 (some 0)) 8 (some 1), procs := [.locked 7, .locked 8] } :=
      RReachable.refl _
        |>.tail (.base _ _ (.open1Miss _ 0 (by decide) rfl))
        |>.tail (.base _ _ (.open1Miss _ 1 (by decide) rfl))
        |>.tail (.base _ _ (.statMiss _ 0 (by decide) rfl))
        |>.tail (.base _ _ (.statMiss _ 1 (by decide) rfl))
        |>.tail (.createByRename _ 0 (by decide))
        |>.tail (.base _ _ (.open2Ok _ 0 7 (by decide) rfl))
        |>.tail (.base _ _ (.flockOk _ 0 7 (by decide) rfl))
        |>.tail (.createByRename _ 1 (by decide))
        |>.tail (.base _ _ (.open2Ok _ 1 8 (by decide) rfl))
        |>.tail (.base _ _ (.flockOk _ 1 8 (by decide) rfl))
    exact ⟨_, run, ⟨7, rfl⟩, ⟨8, rfl⟩⟩

/-- the model's processes move along the automaton the traced programs are checked against (`LockFile.next`, T3) -/
theorem C02_lock_steps_follow_the_traced_automaton {s t : LockFile.LSys} (h : LockFile.LStep s t) :
    ∃ (p : Nat) (ph ph' : LockFile.Ph), s.procs[p]? = some ph ∧ t.procs[p]? = some ph' ∧ (∀ q : Nat, q ≠ p → t.procs[q]? = s.procs[q]?) ∧
      (ph' = LockFile.Ph.crashed ∨ ∃ (k k' : LockFile.Kind) (c : LockFile.LCall), ph.kind = some k ∧ ph'.kind = some k' ∧ LockFile.next k c = some k') := by
  open LockFile in
    cases h with
    | open1Ok p i hp hn | open2Ok p i hp hn => exact moves hp rfl (.inr ⟨_, _, .openRO true, rfl, rfl, rfl⟩)
    | open1Miss p hp hn | open2Miss p hp hn => exact moves hp rfl (.inr ⟨_, _, .openRO false, rfl, rfl, rfl⟩)
    | statHit p i hp hn => exact moves hp rfl (.inr ⟨_, _, .stat true, rfl, rfl, rfl⟩)
    | statMiss p hp hn => exact moves hp rfl (.inr ⟨_, _, .stat false, rfl, rfl, rfl⟩)
    | create p hp => exact moves hp (by split <;> rfl) (.inr ⟨_, _, .creat, rfl, rfl, rfl⟩)
    | flockOk p i hp hf => exact moves hp rfl (.inr ⟨_, _, .flockEx true, rfl, rfl, rfl⟩)
    | flockBusy p i q hp hq => exact moves hp rfl (.inr ⟨_, _, .flockEx false, rfl, rfl, rfl⟩)
    | unlock p i hp => exact moves hp rfl (.inr ⟨_, _, .flockUn, rfl, rfl, rfl⟩)
    | crash p ph hp hnd hnc => exact moves hp (by split <;> rfl) (.inl rfl)

/-- on "who is inside", a step of the lock-file system does nothing or is the process model's `lockOk` or its `unlockOk` / `crash` -/
theorem C02_lock_file_steps_are_the_abstract_lock_steps {s t : LockFile.LSys} (hI : LockFile.Inv s) (h : LockFile.LStep s t) :
    (∀ p, t.inside p ↔ s.inside p) ∨
    (∃ p, (∀ q, ¬ s.inside q) ∧ t.inside p ∧ ∀ q, t.inside q → q = p) ∨
    (∃ p, s.inside p ∧ ∀ q, ¬ t.inside q) := by
  open LockFile in
    have hI' := LockFile.inv_step hI h
    -- of the theorem above only this: one process `p` moves, the others keep their phase
    obtain ⟨p, -, -, -, -, hrest, -⟩ := C02_lock_steps_follow_the_traced_automaton h
    have other : ∀ q, q ≠ p → (t.inside q ↔ s.inside q) := by
      intro q hq; unfold LSys.inside; rw [hrest q hq]
    by_cases hiff : t.inside p ↔ s.inside p
    · left
      intro q
      by_cases hq : q = p
      · rw [hq]; exact hiff
      · exact other q hq
    -- at most one is inside, before and after: whoever else were inside beside `p` would be `p`
    by_cases hs : s.inside p
    · have ht : ¬ t.inside p := fun h' => hiff (iff_of_true h' hs)
      refine .inr (.inr ⟨p, hs, fun q hq => ?_⟩)
      by_cases e : q = p
      · exact ht (e ▸ hq)
      · exact e (exclusive hI ((other q e).1 hq) hs)
    · have ht : t.inside p := Classical.not_not.1 fun h' => hiff (iff_of_false h' hs)
      refine .inr (.inl ⟨p, fun q hq => ?_, ht, fun q hq => exclusive hI' hq ht⟩)
      by_cases e : q = p
      · exact hs (e ▸ hq)
      · exact e (exclusive hI' ((other q e).2 hq) ht)

/-- `init` creates a missing log without truncating: dropped between any two calls of any writer's program it changes nothing that can be read -/
theorem C02_init_between_any_two_calls_changes_nothing (s : Files.St) (ops : List Files.Op) (i : Nat) :
    (Files.run s (ops.take i ++ [.ensureLog false] ++ ops.drop i)).dir.log.getD [] = (Files.run s ops).dir.log.getD [] :=
  Files.ensure_between_calls s ops i

/-- with `O_TRUNC` (the defect of DESIGN §6) an `init` that looked before a writer made and filled the log, and acted afterwards, emptied it -/
theorem C02_truncating_init_lost_an_acknowledged_batch :
    (Files.run { dir := { log := none, tmp := none } } (Files.appendClean true [123, 125, 10] ++ [.ensureLog true])).dir.log = some [] :=
  Files.ensure_with_trunc_loses_the_batch

end Ergo
