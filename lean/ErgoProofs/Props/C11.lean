/-
  C11 — plan creates the whole described graph or nothing.
-/
import ErgoProofs.Lemmas.ReachInv
import ErgoProofs.Lemmas.StorageThm
import ErgoProofs.Lemmas.InputThm
namespace Ergo

/-- what `plan` validates before the lock (unknown keys and a second JSON value are the parser's: `none` below) -/
theorem C11_valid_iff (p : PlanInput) :
    planValid p = true ↔
      optNonBlank p.title = true ∧ optBlank p.body = false ∧ p.tasks ≠ [] ∧
      (∀ t ∈ p.tasks, optNonBlank t.title = true ∧ optBlank t.body = false) ∧
      (planTitles p).Nodup ∧
      (∀ t ∈ p.tasks, ∀ a ∈ t.after, Text.isBlank a = false ∧ some a ≠ t.title ∧ a ∈ planTitles p) ∧
      Acyclic (planEdges p) :=
  planValid_iff p

/-- an invalid payload, or one that does not parse (`none`), is refused and nothing is written -/
theorem C11_invalid_nothing (log : List Event) (env : Env) (p : Option PlanInput)
    (h : p = none ∨ ∃ q, p = some q ∧ planValid q = false) :
    (runCmd log env (.plan p)).log = log ∧ (runCmd log env (.plan p)).write = none ∧ (runCmd log env (.plan p)).err ≠ none := by
  rcases h with rfl | ⟨q, rfl, hq⟩
  · simp [runCmd, sectionOf]
  · simp [runCmd, sectionOf, hq]

/-- a `plan` that writes rewrites the file as the old log followed by new events, and the result keeps every invariant; which events it
    adds (one epic, one todo task per entry, the `after` edges) is not stated -/
theorem C11_effect (log : List Event) (h : ReachOK log) (g : Graph) (hg : replayRaw log = .ok g) (env : Env) (henv : EnvOK g env)
    (p : PlanInput) (w : Write) (hw : (runCmd log env (.plan (some p))).write = some w) :
    (∃ new, w = .replace (log ++ new) ∧ (runCmd log env (.plan (some p))).log = log ++ new) ∧
    ∃ g', replay (runCmd log env (.plan (some p))).log = .ok g' ∧ AllInv g' := by
  refine ⟨?_, reach_replay _ (ReachOK.step env _ h hg henv)⟩
  obtain ⟨sec, o, hs, hr, hlog⟩ := runCmd_write hw
  obtain ⟨_, ⟨⟩, -, rfl⟩ := sectionOf_ok _ hs
  obtain ⟨g0, -, po, hp, -⟩ := runSec_ok _ hr
  obtain ⟨new, rfl⟩ := secPlan_shape _ hp
  exact ⟨new, rfl, hlog⟩

/-- the log `plan` rewrites is the one `readEvents` returns, and that drops the torn tail of a crashed writer (about the reader only) -/
theorem C11_torn_tail_dropped {classify : Storage.Bytes → Storage.LineClass} {limit : Nat} (f frag : Storage.Bytes)
    (hcl : Storage.Closed f) (hnl : Storage.NL ∉ frag) (hne : frag ≠ []) (hbad : classify (Storage.dropCR frag) = .bad)
    (hlen : frag.length < limit) :
    Storage.readEvents classify limit (f ++ frag) = Storage.readEvents classify limit f :=
  Storage.readEvents_fragment hcl hnl hne hbad hlen

/-- a complete JSON document followed by anything but white space (a second value, stray text) is rejected; stated of the documents of
    `new` / `set`, whose reader `Input.document` also serves `plan` -/
theorem C11_second_value_rejected (t : TaskInput) (hne : Input.taskInputMembers t ≠ []) (tail : Storage.Bytes) (ht : Codec.skipWs tail ≠ []) :
    Input.parseTaskInput (Input.encTaskInput t ++ tail) = none := by
  have _ := hne  -- not needed
  simp [Input.parseTaskInput, Input.encTaskInput,
    Input.document_encObj 1 _ (Input.val_taskInputMembers t _) (by have := Input.taskInputMembers_length_le t; omega) tail, ht]

end Ergo
