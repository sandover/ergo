/-
  C15 — Accepted plans can always make progress.
  FALSE of ergo as stated (known finding, known_findings.jsonl): the cycle tests run per level and let a cross-level wait cycle through
  (`C15_refuted`, `C15_witness_accepted`).  What holds: progress where the effective waits-for relation has no cycle
  (`C15_progress_if_acyclic`), which is so in every store without epic→epic edges (`C15_partial_no_epic_edges`).
-/
import ErgoProofs.Lemmas.Progress
import ErgoProofs.Inv
import ErgoProofs.Lemmas.StampFree
namespace Ergo

/-- if the effective waits-for relation (own dependencies + those inherited from the epic's) has no cycle, then whenever some task is
    todo and none is doing / blocked / error, some task is ready -/
theorem C15_progress_if_acyclic (g : Graph) (hinv : AllInv g) (hac : WaitsAcyclic g)
    (hstates : ∀ t ∈ g.tasks, t.isEpic = false → t.st = .todo ∨ closedSt t.st)
    (htodo : ∃ t ∈ g.tasks, t.isEpic = false ∧ t.st = .todo) :
    ∃ t ∈ g.tasks, t.isEpic = false ∧ isReady g t = true :=
  progress g hinv.ok.wf hinv.i06 hinv.i07 hinv.i14 hinv.ids hac hstates htodo

/-- while everything is todo, an item on a wait cycle is not ready (that item only: this is not the converse of progress) -/
theorem C15_cycle_blocks (g : Graph) (hinv : AllInv g) (t : Task) (hc : WaitChain g t t)
    (hall : ∀ u ∈ g.tasks, u.st = .todo) : ¬ isReady g t = true :=
  cycle_blocks g hinv.ok.wf hinv.i14 t hc hall

/-- the witness of the known finding: two epics, one task in each, T1→T2 (task level) and E2→E1 (epic level) -/
def witnessLog : List Event :=
  [ .newItem true "E1" "u1" "" .todo "E1" "" (some 1), .newItem true "E2" "u2" "" .todo "E2" "" (some 2),
    .newItem false "T1" "u3" "E1" .todo "T1" "" (some 3), .newItem false "T2" "u4" "E2" .todo "T2" "" (some 4),
    .link "T1" "T2" true, .link "E2" "E1" true ]

/-- the items `witnessLog` replays to -/
def c15Tasks : List Task :=
  [ freshTask true "E1" "u1" "" "E1" "" 1, freshTask true "E2" "u2" "" "E2" "" 2,
    freshTask false "T1" "u3" "E1" "T1" "" 3, freshTask false "T2" "u4" "E2" "T2" "" 4 ]

/-- REFUTATION of the full property: in the store of `witnessLog` every task is todo and none is ready.  That the CLI produces that log
    (`ReachOK witnessLog`) is not proved, only that it accepts its two `sequence` commands (`C15_witness_accepted`) -/
theorem C15_refuted :
    ∃ g, replay witnessLog = .ok g ∧ (∃ t ∈ g.tasks, t.isEpic = false ∧ t.st = .todo) ∧
      (∀ t ∈ g.tasks, t.isEpic = false → t.st = .todo) ∧ ∀ t ∈ g.tasks, t.isEpic = false → isReady g t = false :=
  ⟨⟨c15Tasks, [("T1", "T2"), ("E2", "E1")], []⟩, by decide, by decide⟩

/-- each of the two `sequence` commands of the witness is accepted by the per-level checks -/
theorem C15_witness_accepted :
    ∃ g1 g2, replay (witnessLog.take 4) = .ok g1 ∧ linkCheck g1 false "T1" "T2" = .ok () ∧
      replay (witnessLog.take 5) = .ok g2 ∧ linkCheck g2 false "E2" "E1" = .ok () :=
  ⟨⟨c15Tasks, [], []⟩, ⟨c15Tasks, [("T1", "T2")], []⟩, by decide, by decide, by decide, by decide⟩

/-- PARTIAL result: without epic→epic edges waits-for is the task-level dependency relation, which `Inv07` keeps acyclic, so
    `C15_progress_if_acyclic` applies to every store that uses no such edge -/
theorem C15_partial_no_epic_edges (g : Graph) (hinv : AllInv g)
    (hnoepic : ∀ e ∈ g.deps, ∀ a ∈ g.tasks, a.id = e.1 → a.isEpic = false) : WaitsAcyclic g := by
  intro t hc
  obtain ⟨c, hedge, hp⟩ := waitChain_path_of_no_epic_edges hinv.i14 hnoepic hc
  exact hinv.i07.acyclic _ _ hedge hp

/-- state, claimant and epic of every item, and the edges, follow from the order of the lines, not from their stamps (e.g. a `claim`
    recorded after a claim-and-release that a fast clock stamped ahead still leaves the task doing and claimed) -/
theorem C15_state_follows_line_order_not_stamps {l l' : List Event} (h : SameLines l l') {g g' : Graph}
    (hr : replay l = .ok g) (hr' : replay l' = .ok g') (id : Id) :
    (g.find? id).map (fun t => (t.st, t.claimedBy, t.epicId)) = (g'.find? id).map (fun t => (t.st, t.claimedBy, t.epicId)) ∧ g.deps = g'.deps :=
  ⟨stamp_free_find_map _ (fun _ => rfl) h hr hr' id, (congrArg Graph.deps (stamp_free_graph h hr hr') :)⟩

end Ergo
