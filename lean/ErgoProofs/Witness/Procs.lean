/-
  The process model is inhabited: four concrete runs (`demo_proc`, `race_contended`, `race_sequential`, `two_winners`) on stores of the demo
  history, and C01 / C02 / C07 / C13 instantiated on them.
-/
import ErgoProofs.Witness.History
import ErgoProofs.Witness.Batches
import ErgoProofs.Props.C01
import ErgoProofs.Props.C13
namespace Ergo
namespace Witness
section ProcWitness
open Proc

/-! ### on the demo store: ag-2 finishes B while ag-3 tries to claim; one reader -/
def envD1 : Env := { agent := "ag-2", times := [1200] }
def secD1 : Sec := .update "BBBBBB" { u := { state := some "done" } }
def envD2 : Env := { agent := "ag-3", times := [1300] }
def secD2 : Sec := .claimOldest ""
def d1 : List Event → Except CmdErr Write := secDecide envD1 secD1
def d2 : List Event → Except CmdErr Write := secDecide envD2 secD2
def wD1 : Write := .append [.state "BBBBBB" .done (some 1200)]
theorem d1_decides : d1 lit11 = .ok wD1 := by decide +kernel

def p0 : Sys := Sys.init lit11 [d1, d2] 1
def p1 : Sys := { setPhase p0 0 .locked with holder := some 0 }
def p2 : Sys := setPhase p1 1 (.finished .busy)
def p3 : Sys := setReader p2 0 (.opened 0)
def p4 : Sys := setPhase p3 0 (.read lit11)

/-- the final state (writer 0 has written and unlocked, the reader has read), written out -/
def pDone : Sys :=
  { inodes := [lit11 ++ [.state "BBBBBB" .done (some 1200)]], cur := 0, holder := none,
    writers := [⟨d1, .finished (.ok lit11 wD1)⟩, ⟨d2, .finished .busy⟩],
    readers := [.done (lit11 ++ [.state "BBBBBB" .done (some 1200)])],
    commits := [(0, lit11, wD1)],
    history := [lit11, lit11 ++ [.state "BBBBBB" .done (some 1200)]] }
theorem reach_p4 : Reachable p0 p4 :=
  ((((Reachable.refl p0).tail (.lockOk p0 0 ⟨d1, .start⟩ rfl rfl rfl)).tail (.lockBusy p1 1 ⟨d2, .start⟩ 0 rfl rfl rfl)).tail
    (.rOpen p2 0 rfl)).tail (.read p3 0 ⟨d1, .locked⟩ rfl rfl)

/-! In the four runs the states between are left to unification (each step's source is the target of the one before): the term is elaborated
    without the expected type `(… :)` and only then compared with the state written out. -/
theorem demo_proc : Reachable (Sys.init demoLog [d1, d2] 1) pDone :=
  demoLog_eq ▸ (((reach_p4.tail (.write _ 0 ⟨d1, .read lit11⟩ lit11 wD1 rfl rfl d1_decides)).tail
    (.unlockOk _ 0 ⟨d1, .wrote lit11 wD1⟩ lit11 wD1 rfl rfl)).tail (.rRead _ 0 0 rfl) :)

/-- C13: the reader saw the store after one whole section -/
example : ∃ k, k ≤ pDone.commits.length ∧ lit11 ++ [Event.state "BBBBBB" .done (some 1200)] = logAfter demoLog pDone.commits k :=
  C13_reader_sees_a_past_state demo_proc 0 _ rfl
example : pDone.history.length = pDone.commits.length + 1 ∧
    ∀ k, k ≤ pDone.commits.length → pDone.history[k]? = some (logAfter demoLog pDone.commits k) :=
  C13_history_is_the_sequence_of_logs demo_proc
/-- C01: the process that found the lock busy had no effect; the lock holder is the one in its section -/
example : ∀ c ∈ pDone.commits, c.1 ≠ 1 := C01_busy_no_effect demo_proc 1 ⟨d2, .finished .busy⟩ rfl rfl
example : p4.holder = some 0 ↔ ((Phase.read lit11 = .locked) ∨ (∃ snap, Phase.read lit11 = .read snap) ∨
    (∃ snap wr, Phase.read lit11 = .wrote snap wr) ∨ (∃ snap e, Phase.read lit11 = .erred snap e)) :=
  C01_mutual_exclusion reach_p4 0 ⟨d1, .read lit11⟩ rfl
example : pDone.log = logAfter demoLog pDone.commits pDone.commits.length := C02_log_is_serial_fold demo_proc
example : lit11 = logAfter demoLog pDone.commits 0 ∧ ∃ d, [d1, d2][0]? = some d ∧ d lit11 = .ok wD1 :=
  C02_each_commit_decided_on_predecessors demo_proc 0 0 lit11 wD1 rfl
example : (0, lit11, wD1) ∈ pDone.commits ∧
    ∀ (i j : Nat) (c c' : List Event × Write), pDone.commits[i]? = some (0, c) → pDone.commits[j]? = some (0, c') → i = j :=
  C02_acknowledged_exactly_once demo_proc 0 ⟨d1, .finished (.ok lit11 wD1)⟩ lit11 wD1 rfl rfl
example : ∀ c ∈ pDone.commits, c.1 ≠ 1 :=
  C02_failed_contributes_nothing demo_proc 1 ⟨d2, .finished .busy⟩ rfl (Or.inl rfl)

/-! the hypotheses of the "serializable ⇒ invariants" theorems (C02, C07, C13) are jointly satisfiable -/
def envsD : List (Env × Sec) := [(envD1, secD1), (envD2, secD2)]
theorem demo_proc_envs : Reachable (Sys.init demoLog (envsD.map fun (es : Env × Sec) => secDecide es.1 es.2) 1) pDone := demo_proc
theorem envsD_ok : ∀ es ∈ envsD, SecOK es.1 es.2 :=
  List.forall_mem_cons.2 ⟨trivial, List.forall_mem_singleton.2 (by decide : envD2.agent ≠ "")⟩
theorem envOKD1 : EnvOK g11 envD1 := by decide
theorem envsD_clock : ∀ (i p : Nat) (snap : List Event) (w : Write) (g : Graph), pDone.commits[i]? = some (p, snap, w) → replayRaw snap = .ok g →
    ∀ es : Env × Sec, envsD[p]? = some es → EnvOK g es.1 :=
  clock_of_one_commit at11.raw rfl envOKD1

example : ∃ g, replayRaw pDone.log = .ok g ∧ AllInv g :=
  C02_serializable_invariants demoLog envsD 1 pDone demo_proc_envs demo_secReach envsD_ok envsD_clock
example : ∃ g, replayRaw pDone.log = .ok g ∧ Inv07 g :=
  C07_inv_concurrent demoLog envsD 1 pDone demo_proc_envs demo_secReach envsD_ok envsD_clock
example : ∃ g, replay (lit11 ++ [Event.state "BBBBBB" .done (some 1200)]) = .ok g ∧ AllInv g :=
  C13_reader_state_is_valid demoLog envsD 1 pDone demo_proc_envs demo_secReach envsD_ok envsD_clock 0 _ rfl

/-! ### two `claim`s racing for the one ready task (B, on the store after `prune`): contention -/
def c1 : List Event → Except CmdErr Write := claimDecide "ag-2" "" 1000
def c2 : List Event → Except CmdErr Write := claimDecide "ag-3" "" 1001
def wC1 : Write := .append [.claim "BBBBBB" "ag-2" (some 1000), .state "BBBBBB" .doing (some 1000)]
theorem c1_decides : c1 lit9 = .ok wC1 := by decide +kernel
theorem c2_decides_after : c2 lit10 = .error .noReady := by decide +kernel

def qDone : Sys :=
  { inodes := [lit10], cur := 0, holder := none,
    writers := [⟨c1, .finished (.ok lit9 wC1)⟩, ⟨c2, .finished .busy⟩], readers := [],
    commits := [(0, lit9, wC1)], history := [lit9, lit10] }
theorem race_contended : Reachable (Sys.init lit9 [c1, c2] 0) qDone :=
  ((((((Reachable.refl (Sys.init lit9 [c1, c2] 0)).tail (.lockOk _ 0 ⟨c1, .start⟩ rfl rfl rfl)).tail
    (.lockBusy _ 1 ⟨c2, .start⟩ 0 rfl rfl rfl)).tail (.read _ 0 ⟨c1, .locked⟩ rfl rfl)).tail
    (.write _ 0 ⟨c1, .read lit9⟩ lit9 wC1 rfl rfl c1_decides)).tail
    (.unlockOk _ 0 ⟨c1, .wrote lit9 wC1⟩ lit9 wC1 rfl rfl) :)

/-- C01: the winner was handed the head of the ready list of the log at lock time and wrote claim + doing for it -/
example : lit9 = logAfter lit9 qDone.commits 0 ∧
    ∃ g t rest, replay lit9 = .ok g ∧ readyTasks g "" = t :: rest ∧
      (∀ u ∈ readyTasks g "", claimLe t u = true) ∧ t.isEpic = false ∧ isReady g t = true ∧
      wC1 = .append [Event.claim t.id "ag-2" (some 1000), Event.state t.id .doing (some 1000)] :=
  C01_claim_outcome race_contended 0 0 lit9 wC1 "ag-2" "" 1000 rfl rfl
example : ∀ c ∈ qDone.commits, c.1 ≠ 1 := C01_busy_no_effect race_contended 1 ⟨c2, .finished .busy⟩ rfl rfl

/-! ### the same two `claim`s one after the other: the second is told that nothing is ready -/
def tDone : Sys :=
  { inodes := [lit10], cur := 0, holder := none,
    writers := [⟨c1, .finished (.ok lit9 wC1)⟩, ⟨c2, .finished (.failed lit10 .noReady)⟩], readers := [],
    commits := [(0, lit9, wC1)], history := [lit9, lit10] }
theorem race_sequential : Reachable (Sys.init lit9 [c1, c2] 0) tDone :=
  (((((((((Reachable.refl (Sys.init lit9 [c1, c2] 0)).tail (.lockOk _ 0 ⟨c1, .start⟩ rfl rfl rfl)).tail
    (.read _ 0 ⟨c1, .locked⟩ rfl rfl)).tail
    (.write _ 0 ⟨c1, .read lit9⟩ lit9 wC1 rfl rfl c1_decides)).tail
    (.unlockOk _ 0 ⟨c1, .wrote lit9 wC1⟩ lit9 wC1 rfl rfl)).tail
    (.lockOk _ 1 ⟨c2, .start⟩ rfl rfl rfl)).tail
    (.read _ 1 ⟨c2, .locked⟩ rfl rfl)).tail
    (.decideErr _ 1 ⟨c2, .read lit10⟩ lit10 .noReady rfl rfl c2_decides_after)).tail
    (.unlockErr _ 1 ⟨c2, .erred lit10 .noReady⟩ lit10 .noReady rfl rfl) :)

/-- C01: "nothing is ready" was answered on a snapshot in which indeed nothing is ready (B is already claimed) -/
example : ∃ g, replay lit10 = .ok g ∧ ∀ t ∈ g.tasks, ¬ (t.isEpic = false ∧ isReady g t = true ∧ (("" : String) = "" ∨ t.epicId = "")) :=
  C01_no_ready_means_empty race_sequential 1 ⟨c2, .finished (.failed lit10 .noReady)⟩ lit10 "ag-3" "" 1001 rfl rfl rfl
/-- `C01_no_double` is vacuous on this run (the second claimer committed nothing, so there is no commit `j > 0`); it is exercised on
    `two_winners` below -/
example : ∀ (j q : Nat) (snapQ : List Event) (wQ : Write), 0 < j → tDone.commits[j]? = some (q, snapQ, wQ) →
    snapQ = (tDone.commits.take j |>.drop 1).foldl (fun l c => applyWrite l c.2.2) (applyWrite lit9 wC1) :=
  fun j q snapQ wQ hj hQ => C01_no_double race_sequential 0 j 0 q lit9 snapQ wC1 wQ hj rfl hQ
example : ∀ c ∈ tDone.commits, c.1 ≠ 1 :=
  C02_failed_contributes_nothing race_sequential 1 ⟨c2, .finished (.failed lit10 .noReady)⟩ rfl (Or.inr ⟨_, _, rfl⟩)

/-! ### two `claim`s, two ready tasks (store after step 3: A and B, no edge yet): both win, different tasks; a reader in between -/
def e1 : List Event → Except CmdErr Write := claimDecide "ag-1" "" 500
def e2 : List Event → Except CmdErr Write := claimDecide "ag-2" "" 501
def wE1 : Write := .append [.claim "AAAAAA" "ag-1" (some 500), .state "AAAAAA" .doing (some 500)]
def wE2 : Write := .append [.claim "BBBBBB" "ag-2" (some 501), .state "BBBBBB" .doing (some 501)]
def m4 : List Event := lit3 ++ [.claim "AAAAAA" "ag-1" (some 500), .state "AAAAAA" .doing (some 500)]
def m5 : List Event := m4 ++ [.claim "BBBBBB" "ag-2" (some 501), .state "BBBBBB" .doing (some 501)]

/-- with two ready tasks the ready list is really sorted: A (created at 200) before B (300) -/
theorem ready3 : readyTasks g3 "" = [tA0, tB0] := by
  have hf : (g3.tasks.filter fun t => (("" : Id) == "" || t.epicId == "") && isReady g3 t && !t.isEpic) = [tA0, tB0] := by decide +kernel
  have h1 : claimLe tA0 tB0 = true := by decide
  rw [readyTasks, hf]; simp [List.mergeSort, List.MergeSort.Internal.splitInTwo, h1]
theorem e1_decides : e1 lit3 = .ok wE1 := by
  unfold e1 claimDecide
  rw [at3.replay]; simp only [secClaimOldest, ready3]; rfl
theorem e2_decides : e2 m4 = .ok wE2 := by decide +kernel

def uDone : Sys :=
  { inodes := [m5], cur := 0, holder := none,
    writers := [⟨e1, .finished (.ok lit3 wE1)⟩, ⟨e2, .finished (.ok m4 wE2)⟩], readers := [.done m4],
    commits := [(0, lit3, wE1), (1, m4, wE2)], history := [lit3, m4, m5] }
theorem two_winners : Reachable (Sys.init lit3 [e1, e2] 1) uDone :=
  (((((((((((Reachable.refl (Sys.init lit3 [e1, e2] 1)).tail (.lockOk _ 0 ⟨e1, .start⟩ rfl rfl rfl)).tail
    (.read _ 0 ⟨e1, .locked⟩ rfl rfl)).tail
    (.rOpen _ 0 rfl)).tail
    (.write _ 0 ⟨e1, .read lit3⟩ lit3 wE1 rfl rfl e1_decides)).tail
    (.unlockOk _ 0 ⟨e1, .wrote lit3 wE1⟩ lit3 wE1 rfl rfl)).tail
    (.rRead _ 0 0 rfl)).tail
    (.lockOk _ 1 ⟨e2, .start⟩ rfl rfl rfl)).tail
    (.read _ 1 ⟨e2, .locked⟩ rfl rfl)).tail
    (.write _ 1 ⟨e2, .read m4⟩ m4 wE2 rfl rfl e2_decides)).tail
    (.unlockOk _ 1 ⟨e2, .wrote m4 wE2⟩ m4 wE2 rfl rfl) :)

/-- C01: the second winner decided on a log that already holds the first winner's claim — and so got the *other* task -/
example : m4 = ((uDone.commits.take 1).drop (0 + 1)).foldl (fun l c => applyWrite l c.2.2) (applyWrite lit3 wE1) :=
  C01_no_double two_winners 0 1 0 1 lit3 m4 wE1 wE2 (by decide) rfl rfl
example : m4 = logAfter lit3 uDone.commits 1 ∧
    ∃ g t rest, replay m4 = .ok g ∧ readyTasks g "" = t :: rest ∧
      (∀ u ∈ readyTasks g "", claimLe t u = true) ∧ t.isEpic = false ∧ isReady g t = true ∧
      wE2 = .append [Event.claim t.id "ag-2" (some 501), Event.state t.id .doing (some 501)] :=
  C01_claim_outcome two_winners 1 1 m4 wE2 "ag-2" "" 501 rfl rfl
/-- C13: the reader, which opened the log before the first write and read it after, saw the state after exactly one section -/
example : ∃ k, k ≤ uDone.commits.length ∧ m4 = logAfter lit3 uDone.commits k := C13_reader_sees_a_past_state two_winners 0 m4 rfl
example : uDone.log = logAfter lit3 uDone.commits uDone.commits.length := C02_log_is_serial_fold two_winners

end ProcWitness

end Witness
end Ergo
