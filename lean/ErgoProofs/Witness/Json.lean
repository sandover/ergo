/-
  The concrete JSON line codec and the byte-level process system: the hypotheses of the `…_json`, `…_on_disk` and `…_on_the_bytes` theorems
  are met by the demo batches, by a one-command history and by runs with ergo's own commands as writers.
-/
import ErgoProofs.Witness.Batches
import ErgoProofs.Props.C01
import ErgoProofs.Props.C02
import ErgoProofs.Props.C03
import ErgoProofs.Props.C04
import ErgoProofs.Props.C06
import ErgoProofs.Props.C07
import ErgoProofs.Props.C08
import ErgoProofs.Props.C12
import ErgoProofs.Props.C13
import ErgoProofs.Props.C14
import ErgoProofs.Props.C17
import ErgoProofs.Props.C19
namespace Ergo
namespace Witness
namespace JsonWitness
open Storage Codec

def ets : Event → String := fun _ => "2026-01-02T03:04:05Z"

theorem batchA_wf : AllWf batchA := by
  intro e he
  simp only [batchA, List.mem_cons, List.not_mem_nil, or_false] at he
  rcases he with rfl | rfl | rfl | rfl <;> simp +decide [Wf, TimeOk, StOk]
theorem batchB_wf : AllWf batchB := by
  intro e he
  simp only [batchB, List.mem_cons, List.not_mem_nil, or_false] at he
  rcases he with rfl | rfl <;> simp +decide [Wf, TimeOk, StOk]

theorem wf_short_exists {evs : List Event} (hw : AllWf evs) : ∃ limit, Short Wf (encodeEvent ets) limit evs :=
  (short_exists (encodeEvent ets) evs).imp fun l hl => short_of_wf ets l evs hw fun e he => (hl e he).2

theorem json_short_exists : ∃ limit, Short Wf (encodeEvent ets) limit (batchA ++ batchB) := wf_short_exists (allWf_append batchA_wf batchB_wf)
noncomputable def jLimit : Nat := Classical.choose json_short_exists
theorem jShortAB : Short Wf (encodeEvent ets) jLimit (batchA ++ batchB) := Classical.choose_spec json_short_exists
theorem jShortA : Short Wf (encodeEvent ets) jLimit batchA := (List.forall_mem_append.1 jShortAB).1
theorem jShortB : Short Wf (encodeEvent ets) jLimit batchB := (List.forall_mem_append.1 jShortAB).2

noncomputable def jfile1 : Bytes := appendFile classifyLine (encodeEvent ets) [] batchA
theorem jfile1_reads : readEvents classifyLine jLimit jfile1 = .ok batchA := C12_append_extends_json ets [] [] batchA readEvents_nil jShortA

/-- C03 / C13: the second batch cut after 40 bytes, in the real line format -/
example : ∃ n, n ≤ batchB.length ∧
    readEvents classifyLine jLimit (appendTorn classifyLine (encodeEvent ets) jfile1 batchB 40) = .ok (batchA ++ batchB.take n) :=
  C03_torn_write_json ets jfile1 batchA batchB 40 jfile1_reads jShortB
example : ∃ n, n ≤ batchB.length ∧
    readEvents classifyLine jLimit (appendTorn classifyLine (encodeEvent ets) jfile1 batchB 40) = .ok (batchA ++ batchB.take n) :=
  C13_torn_tail_is_dropped_json ets jfile1 batchA batchB 40 jfile1_reads jShortB
example : readEvents classifyLine jLimit (appendFile classifyLine (encodeEvent ets) jfile1 batchB) = .ok batchA ∨
    readEvents classifyLine jLimit (appendFile classifyLine (encodeEvent ets) jfile1 batchB) = .ok (batchA ++ batchB) :=
  C04_append_all_or_nothing_json ets jfile1 _ batchA batchB jfile1_reads jShortB .after
example : ∃ es', readEvents classifyLine jLimit (appendFile classifyLine (encodeEvent ets) (appendTorn classifyLine (encodeEvent ets) jfile1 batchB 40) batchB) = .ok es' :=
  C03_always_readable_json ets [] _ [] readEvents_nil
    (.tail (.tail (.tail (.refl _) (.append [] batchA jShortA)) (.torn jfile1 batchB 40 jShortB)) (.append _ batchB jShortB))
/-- C17 / C12: a title with a quote, a newline, an HTML character and an astral character -/
example : classifyLine (encodeEvent ets (.title "AAAAAA" "say \"hi\"\n<b>😀" (some 500))) = .ev (.title "AAAAAA" "say \"hi\"\n<b>😀" (some 500)) :=
  C17_line_roundtrip ets _ (by simp +decide [Wf, TimeOk])
example : Time.parse (Time.format 63926283060120000000) = some 63926283060120000000 := C12_time_stamp_roundtrip _ (by decide)
/-- C03: the log after a further command with a sane clock is well-formed.  The command chosen, `claim`, finds nothing ready here (A is
    doing, B waits for A) and writes nothing: no written event is tested -/
example : AllWf (runCmd (batchA ++ batchB) { agent := "ag-2", times := [600] } (.claimOldest "")).log :=
  C03_commands_write_recoverable_events _ (allWf_append batchA_wf batchB_wf) _ (by unfold EnvT; decide) _

/-! A one-command history as bytes (`new task` with state and claim, three events), under both environment assumptions at once (`DiskReach`) -/
def envA : Env := { agent := "ag-1", times := [100, 101, 102], ids := ["AAAAAA", "BBBBBB"], uuids := ["u1", "u2"] }
def reqA : Request := .newTask { bodyStdin := false, piped := true, flags := {}, stdinText := "", json := some { title := some "first", state := some "doing", claim := some "ag-1" } }
theorem envA_T : EnvT envA := by unfold EnvT; decide
theorem envA_OK : EnvOK Graph.empty envA := by decide
theorem one_step_on_disk : ∃ limit, DiskReach limit (runCmd [] envA reqA).log (fileAfter ets [] (runCmd [] envA reqA).write) := by
  obtain ⟨l, hl⟩ := short_exists (encodeEvent ets) (runCmd [] envA reqA).log
  exact ⟨l, .step (g := Graph.empty) envA reqA ets .init rfl envA_OK envA_T (fun e he => (hl e he).2)⟩
theorem one_step_exists : ∃ limit, FileLog limit (runCmd [] envA reqA).log (fileAfter ets [] (runCmd [] envA reqA).write) :=
  one_step_on_disk.imp fun _ => diskReach_fileLog
example : ∃ limit, readEvents classifyLine limit (fileAfter ets [] (runCmd [] envA reqA).write) = .ok (runCmd [] envA reqA).log :=
  one_step_exists.imp fun _ h => (C12_file_decodes_to_the_log h).1
example : (runCmd [] envA reqA).log.length = 3 := by decide +kernel
example : ∃ limit g, readEvents classifyLine limit (fileAfter ets [] (runCmd [] envA reqA).write) = .ok (runCmd [] envA reqA).log ∧
    replay (runCmd [] envA reqA).log = .ok g ∧ Inv06 g :=
  one_step_on_disk.imp fun _ => C06_inv_holds_of_the_bytes_on_disk
example : ∃ limit g, readEvents classifyLine limit (fileAfter ets [] (runCmd [] envA reqA).write) = .ok (runCmd [] envA reqA).log ∧
    replay (runCmd [] envA reqA).log = .ok g ∧ Inv07 g :=
  one_step_on_disk.imp fun _ => C07_inv_holds_of_the_bytes_on_disk
example : ∃ limit g, readEvents classifyLine limit (fileAfter ets [] (runCmd [] envA reqA).write) = .ok (runCmd [] envA reqA).log ∧
    replay (runCmd [] envA reqA).log = .ok g ∧ Inv14 g :=
  one_step_on_disk.imp fun _ => C14_inv_holds_of_the_bytes_on_disk
example : ∃ limit g, readEvents classifyLine limit (fileAfter ets [] (runCmd [] envA reqA).write) = .ok (runCmd [] envA reqA).log ∧
    replay (runCmd [] envA reqA).log = .ok g ∧ WF g :=
  one_step_on_disk.imp fun _ => C08_applies_to_the_bytes_on_disk
example : ∃ limit g, readEvents classifyLine limit (fileAfter ets [] (runCmd [] envA reqA).write) = .ok (runCmd [] envA reqA).log ∧
    replay (runCmd [] envA reqA).log = .ok g ∧ ((Render.rows g .all).map (·.id)).Perm (g.tasks.map (·.id)) :=
  one_step_on_disk.imp fun _ h => let ⟨g, h1, h2, h3, _⟩ := C19_list_of_the_bytes_on_disk_is_complete h; ⟨g, h1, h2, h3⟩

/-! ### the byte-level process system: one of ergo's own commands (`claim`) as a writer on the JSON file of the demo history -/
section BytesRun
open ProcB Proc

def envC : Env := { agent := "ag-9", times := [700] }
def secC : Sec := .claimOldest ""
def wrC : Write := .append [.claim "AAAAAA" "ag-9" (some 700), .state "AAAAAA" .doing (some 700)]
theorem claim_decides : cmdWriter envC secC batchA = .ok wrC := by decide +kernel
theorem envC_T : EnvT envC := by unfold EnvT; decide

theorem run_limit_exists : ∃ limit, Short Wf (encodeEvent ets) limit (batchA ++ wrC.events) :=
  wf_short_exists (allWf_append batchA_wf (cmdWriter_wf envC envC_T secC batchA wrC batchA_wf claim_decides))
noncomputable def rLimit : Nat := Classical.choose run_limit_exists
theorem rShort : Short Wf (encodeEvent ets) rLimit (batchA ++ wrC.events) := Classical.choose_spec run_limit_exists

noncomputable def rfile : Bytes := appendFile classifyLine (encodeEvent ets) [] batchA
theorem rfile_reads : readEvents classifyLine rLimit rfile = .ok batchA :=
  C12_append_extends_json ets [] [] batchA readEvents_nil (List.forall_mem_append.1 rShort).1

noncomputable def b0 : BSys := BSys.init rfile [cmdWriter envC secC] 1 rLimit ets
theorem b0_inv : ProcB.Inv b0 :=
  inv_init rfile_reads batchA_wf (List.forall_mem_singleton.2 (cmdWriter_wf envC envC_T secC))

noncomputable def b1 : BSys := { setPhaseB b0 0 .locked with holder := some 0 }
noncomputable def b2 : BSys := setPhaseB b1 0 (.read batchA)
noncomputable def b3 : BSys := { setPhaseB (writeBytes b2 wrC) 0 (.wrote batchA wrC) with commits := b2.commits ++ [(0, batchA, wrC)] }
/-- the same writer killed after 25 bytes of its write instead -/
noncomputable def b3torn : BSys :=
  { setPhaseB { b2 with files := b2.files.set b2.cur (appendTorn classifyLine (encodeEvent b2.ets) b2.file wrC.events 25) } 0 .crashed
    with holder := if b2.holder = some 0 then none else b2.holder }

theorem fitsC : ∀ e ∈ wEvents wrC, (encodeEvent ets e).length < rLimit := fun e he => (rShort e (List.mem_append_right _ he)).2
theorem brun : BReachable b0 b2 ∧ BReachableNT b0 b3 :=
  solo_run rfile _ 1 rLimit ets 0 _ batchA wrC rfl rfile_reads claim_decides fitsC
theorem step23torn : BStep b2 b3torn :=
  BStep.tornWrite b2 0 ⟨cmdWriter envC secC, .read batchA⟩ batchA wrC.events 25 rfl rfl claim_decides fitsC
theorem reach2 : BReachable b0 b2 := brun.1
theorem reach3 : BReachableNT b0 b3 := brun.2

/-- C02 (bytes): after the claim, the bytes under the log's name decode to the demo batch plus the claim's two events -/
example : readEvents classifyLine rLimit b3.file = .ok (logAfter batchA b3.commits b3.commits.length) :=
  C02_bytes_are_the_serial_fold rfile _ 1 rLimit ets batchA rfile_reads batchA_wf
    (List.forall_mem_singleton.2 (cmdWriter_wf envC envC_T secC)) b3 reach3
/-- C03 (bytes): with the writer killed inside its write the store still loads -/
example : ProcB.Inv b3torn :=
  C03_store_loads_under_every_schedule_and_kill (.tail reach2 step23torn) b0_inv
example : TornResult b2 b3torn :=
  (torn_sim b2 (reach_inv reach2 b0_inv) 0 ⟨cmdWriter envC secC, .read batchA⟩ batchA wrC.events 25 rfl rfl claim_decides fitsC).2

end BytesRun

/-! ### the invariants of the bytes under concurrency: `new task` as a process of the byte-level system on the empty store -/
section DiskConcRun
open ProcB Proc

def secW : Sec := .create false "" "first" "" {}
def envsW : List (Env × Sec) := [(envA, secW)]
def wrW : Write := .append [.newItem false "AAAAAA" "u1" "" .todo "first" "" (some 100)]
theorem create_decides : secDecide envA secW [] = .ok wrW := by decide
theorem wlimit_exists : ∃ limit, ∀ e ∈ wEvents wrW, (encodeEvent ets e).length < limit := by
  obtain ⟨l, hl⟩ := short_exists (encodeEvent ets) (wEvents wrW)
  exact ⟨l, fun e he => (hl e he).2⟩
noncomputable def wLimit : Nat := Classical.choose wlimit_exists
noncomputable def c0 : BSys := BSys.init [] (envsW.map fun (es : Env × Sec) => secDecide es.1 es.2) 0 wLimit ets
noncomputable def c1 : BSys := { setPhaseB c0 0 .locked with holder := some 0 }
noncomputable def c2 : BSys := setPhaseB c1 0 (.read [])
noncomputable def c3 : BSys := { setPhaseB (writeBytes c2 wrW) 0 (.wrote [] wrW) with commits := c2.commits ++ [(0, [], wrW)] }
theorem creach3 : BReachableNT c0 c3 :=
  (solo_run [] _ 0 wLimit ets 0 _ [] wrW rfl readEvents_nil create_decides (Classical.choose_spec wlimit_exists)).2
theorem c3_clock : ∀ (i p : Nat) (snap : List Event) (w : Write) (g : Graph), c3.commits[i]? = some (p, snap, w) → replayRaw snap = .ok g →
    ∀ es : Env × Sec, envsW[p]? = some es → EnvOK g es.1 :=
  clock_of_one_commit (g0 := Graph.empty) rfl rfl envA_OK
theorem envsW_ok : ∀ es ∈ envsW, SecOK es.1 es.2 := List.forall_mem_singleton.2 (by decide : Text.isBlank "first" = false)
theorem envsW_T : ∀ es ∈ envsW, EnvT es.1 := List.forall_mem_singleton.2 envA_T
example : ∃ L g, readEvents classifyLine wLimit c3.file = .ok L ∧ replayRaw L = .ok g ∧ Inv06 g ∧ Inv07 g ∧ Inv14 g :=
  C02_bytes_under_every_schedule_keep_the_invariants _ _ _ _ _ _ readEvents_nil allWf_nil .init envsW_ok envsW_T _ creach3 c3_clock
example : ∃ L g, readEvents classifyLine wLimit c3.file = .ok L ∧ replayRaw L = .ok g ∧ Inv06 g :=
  C06_inv_concurrent_on_disk _ _ _ _ _ _ readEvents_nil allWf_nil .init envsW_ok envsW_T _ creach3 c3_clock
example : ∃ L g, readEvents classifyLine wLimit c3.file = .ok L ∧ replayRaw L = .ok g ∧ Inv07 g :=
  C07_inv_concurrent_on_disk _ _ _ _ _ _ readEvents_nil allWf_nil .init envsW_ok envsW_T _ creach3 c3_clock
example : ∃ L g, readEvents classifyLine wLimit c3.file = .ok L ∧ replayRaw L = .ok g ∧ Inv14 g :=
  C14_inv_concurrent_on_disk _ _ _ _ _ _ readEvents_nil allWf_nil .init envsW_ok envsW_T _ creach3 c3_clock
end DiskConcRun

/-! ### a lock-free reader of the byte-level system: what it decoded satisfies every invariant.  In this run the reader opens and reads
    before the writer moves: there is no commit, and the graph found valid is `Graph.empty` -/
section DiskReaderRun
open ProcB Proc
noncomputable def r0 : BSys := BSys.init [] (envsW.map fun (es : Env × Sec) => secDecide es.1 es.2) 1 wLimit ets
noncomputable def r1 : BSys := setReaderB r0 0 (.opened r0.cur)
noncomputable def r2 : BSys := setReaderB r1 0 (.done (decode r1.limit (r1.files.getD 0 [])))
theorem rstep01 : BStep r0 r1 := BStep.rOpen r0 0 rfl
theorem rstep12 : BStep r1 r2 := BStep.rRead r1 0 0 rfl
theorem rreach2 : BReachableNT r0 r2 :=
  .tail (.tail (.refl _) rstep01 (not_torn_of_no_read (init_no_read _ _ _ _ _))) rstep12 (not_torn_of_no_read (init_no_read [] _ 1 wLimit ets))
example : ∃ g, replay (decode r1.limit (r1.files.getD 0 [])) = .ok g ∧ AllInv g :=
  C13_byte_reader_state_is_valid _ _ _ _ _ _ readEvents_nil allWf_nil .init envsW_ok envsW_T _ rreach2
    (fun _ _ _ _ _ hc => nomatch hc) 0 _ rfl
end DiskReaderRun

/-! ### `claim` as a process of the byte-level system on the JSON file of the demo batch (C01 on the bytes) -/
section ClaimBytesRun
open ProcB Proc
theorem cd_eq : claimDecide "ag-9" "" 700 = cmdWriter envC secC := claimDecide_eq_cmdWriter envC ""
theorem cd_decides : claimDecide "ag-9" "" 700 batchA = .ok wrC := cd_eq ▸ claim_decides
theorem cd_wf : ∀ snap wr, AllWf snap → claimDecide "ag-9" "" 700 snap = .ok wr → AllWf wr.events :=
  cd_eq ▸ cmdWriter_wf envC envC_T secC
noncomputable def k0 : BSys := BSys.init rfile [claimDecide "ag-9" "" 700] 0 rLimit ets
noncomputable def k1 : BSys := { setPhaseB k0 0 .locked with holder := some 0 }
noncomputable def k2 : BSys := setPhaseB k1 0 (.read batchA)
noncomputable def k3 : BSys := { setPhaseB (writeBytes k2 wrC) 0 (.wrote batchA wrC) with commits := k2.commits ++ [(0, batchA, wrC)] }
theorem kreach3 : BReachableNT k0 k3 := (solo_run rfile _ 0 rLimit ets 0 _ batchA wrC rfl rfile_reads cd_decides fitsC).2
example : batchA = logAfter batchA k3.commits 0 ∧
    ∃ g t rest, replay batchA = .ok g ∧ readyTasks g "" = t :: rest ∧
      (∀ u ∈ readyTasks g "", claimLe t u = true) ∧ t.isEpic = false ∧ isReady g t = true ∧
      wrC = .append [Event.claim t.id "ag-9" (some 700), Event.state t.id .doing (some 700)] :=
  C01_claim_outcome_on_the_bytes rfile [claimDecide "ag-9" "" 700] 0 rLimit ets batchA rfile_reads batchA_wf
    (List.forall_mem_singleton.2 cd_wf)
    k3 kreach3 0 0 batchA wrC "ag-9" "" 700 rfl rfl
end ClaimBytesRun

end JsonWitness

end Witness
end Ergo
