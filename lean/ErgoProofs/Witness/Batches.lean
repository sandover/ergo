/-
  Shared by the witness modules: two batches of events (what steps 1–4 and step 5 of the demo history write), a line-length limit for any
  batch under any encoding, `EnvOK` as a decidable proposition, the clock premise of the concurrent theorems for a run with one commit.
-/
import ErgoProofs.Lemmas.StorageThm
import ErgoProofs.Inv
namespace Ergo
namespace Witness
open Storage

abbrev AnyEvent : Event → Prop := fun _ => True

theorem short_exists (encode : Event → Bytes) (evs : List Event) : ∃ limit, Short AnyEvent encode limit evs := by
  induction evs with
  | nil => exact ⟨0, fun e he => by cases he⟩
  | cons a evs ih =>
    obtain ⟨l, hl⟩ := ih
    refine ⟨max l ((encode a).length + 1), fun e he => ⟨trivial, ?_⟩⟩
    rcases List.mem_cons.1 he with rfl | he
    · omega
    · have := (hl e he).2; omega

def batchA : List Event :=
  [.newItem true "EEEEEE" "uuid-e" "" .todo "Release 1.0" "" (some 100),
   .newItem false "AAAAAA" "uuid-a" "EEEEEE" .todo "Write the code" "all of it" (some 200),
   .newItem false "BBBBBB" "uuid-b" "EEEEEE" .todo "Test the code" "" (some 300),
   .link "BBBBBB" "AAAAAA" true]
def batchB : List Event := [.claim "AAAAAA" "ag-1" (some 500), .state "AAAAAA" .doing (some 500)]

instance (g : Graph) (env : Env) : Decidable (EnvOK g env) :=
  decidable_of_iff ((∀ i ∈ env.ids, i ≠ "") ∧ env.times ≠ [] ∧ (∀ n ∈ env.times, 0 < n) ∧ ∀ t ∈ g.tasks, ∀ x ∈ t.times, ∀ n ∈ env.times, x ≤ n)
    ⟨fun ⟨a, b, c, d⟩ => ⟨a, b, c, d⟩, fun ⟨a, b, c, d⟩ => ⟨a, b, c, d⟩⟩

/-- the clock premise (`hclock`) of the concurrent theorems for a run with one commit -/
theorem clock_of_one_commit {envs : List (Env × Sec)} {p0 : Nat} {snap0 : List Event} {w0 : Write} {g0 : Graph} {es0 : Env × Sec}
    (hr0 : replayRaw snap0 = .ok g0) (he : envs[p0]? = some es0) (hok : EnvOK g0 es0.1) :
    ∀ (i p : Nat) (snap : List Event) (w : Write) (g : Graph), [(p0, snap0, w0)][i]? = some (p, snap, w) → replayRaw snap = .ok g →
      ∀ es : Env × Sec, envs[p]? = some es → EnvOK g es.1 := by
  intro i p snap w g hc hr es hes
  cases i with
  | succ i => simp at hc
  | zero =>
    cases hc
    cases hr0.symm.trans hr
    cases he.symm.trans hes
    exact hok

end Witness
end Ergo
