/-
  A concrete CLI history of eleven commands (`env1 … env11`, `req1 … req11`, `log0 … log11 = demoLog`), each of which succeeds:
  `demo_reach : ReachOK demoLog`, `demo_secReach : SecReach demoLog`, `demo_nontrivial`; every prefix (`lit_k` is `log_k` written out) is reachable and replays to
  `g_k` (`at_k`), which satisfies `AllInv`. Theorems of C02, C04–C12, C14–C17, C19, C20 instantiated on it.
-/
import ErgoProofs.Witness.Batches
import ErgoProofs.Props.C02
import ErgoProofs.Props.C04
import ErgoProofs.Props.C05
import ErgoProofs.Props.C06
import ErgoProofs.Props.C07
import ErgoProofs.Props.C08
import ErgoProofs.Props.C09
import ErgoProofs.Props.C10
import ErgoProofs.Props.C11
import ErgoProofs.Props.C12
import ErgoProofs.Props.C14
import ErgoProofs.Props.C15
import ErgoProofs.Props.C16
import ErgoProofs.Props.C17
import ErgoProofs.Props.C19
import ErgoProofs.Props.C20
namespace Ergo
namespace Witness

def jsonIn (t : TaskInput) : RawInput := { piped := true, json := some t }

def env1 : Env := { agent := "ag-1", times := [100], ids := ["EEEEEE"], uuids := ["uuid-e"] }
def req1 : Request := .newEpic (jsonIn { title := some "Release 1.0" })

def env2 : Env := { agent := "ag-1", times := [200], ids := ["AAAAAA"], uuids := ["uuid-a"] }
def req2 : Request := .newTask (jsonIn { title := some "Write the code", body := some "all of it", epic := some "EEEEEE" })

def env3 : Env := { agent := "ag-1", times := [300], ids := ["AAAAAA", "BBBBBB"], uuids := ["uuid-b"] }
def req3 : Request := .newTask (jsonIn { title := some "Test the code", epic := some "EEEEEE" })

def env4 : Env := { agent := "ag-1", times := [400] }
def req4 : Request := .sequence ["AAAAAA", "BBBBBB"]

def env5 : Env := { agent := "ag-1", times := [500] }
def req5 : Request := .claimOldest ""

def env6 : Env := { agent := "ag-1", times := [600], po := .ok "out/report.txt" "sha-1" "mtime-1" "git-1" }
def req6 : Request := .set "AAAAAA" (jsonIn { state := some "done", resultPath := some "out/report.txt", resultSummary := some "code written" })

def env7 : Env := { agent := "ag-2", times := [700], ids := ["CCCCCC"], uuids := ["uuid-c"] }
def req7 : Request := .newTask (jsonIn { title := some "Ship it", epic := some "EEEEEE", state := some "blocked" })

def env8 : Env := { agent := "ag-2", times := [800] }
def req8 : Request := .sequence ["BBBBBB", "CCCCCC"]

def env9 : Env := { agent := "ag-2", times := [900] }
def req9 : Request := .prune true

def env10 : Env := { agent := "ag-2", times := [1000] }
def req10 : Request := .claim "BBBBBB"

def env11 : Env := { agent := "ag-2", times := [1100] }
def req11 : Request := .compact

def log0 : List Event := []
def log1 := (runCmd log0 env1 req1).log
def log2 := (runCmd log1 env2 req2).log
def log3 := (runCmd log2 env3 req3).log
def log4 := (runCmd log3 env4 req4).log
def log5 := (runCmd log4 env5 req5).log
def log6 := (runCmd log5 env6 req6).log
def log7 := (runCmd log6 env7 req7).log
def log8 := (runCmd log7 env8 req8).log
def log9 := (runCmd log8 env9 req9).log
def log10 := (runCmd log9 env10 req10).log
def log11 := (runCmd log10 env11 req11).log

def lit0 : List Event :=
  []
def lit1 : List Event :=
  [.newItem true "EEEEEE" "uuid-e" "" .todo "Release 1.0" "" (some 100)]
def lit2 : List Event :=
  [.newItem true "EEEEEE" "uuid-e" "" .todo "Release 1.0" "" (some 100),
   .newItem false "AAAAAA" "uuid-a" "EEEEEE" .todo "Write the code" "all of it" (some 200)]
def lit3 : List Event :=
  [.newItem true "EEEEEE" "uuid-e" "" .todo "Release 1.0" "" (some 100),
   .newItem false "AAAAAA" "uuid-a" "EEEEEE" .todo "Write the code" "all of it" (some 200),
   .newItem false "BBBBBB" "uuid-b" "EEEEEE" .todo "Test the code" "" (some 300)]
def lit4 : List Event :=
  [.newItem true "EEEEEE" "uuid-e" "" .todo "Release 1.0" "" (some 100),
   .newItem false "AAAAAA" "uuid-a" "EEEEEE" .todo "Write the code" "all of it" (some 200),
   .newItem false "BBBBBB" "uuid-b" "EEEEEE" .todo "Test the code" "" (some 300),
   .link "BBBBBB" "AAAAAA" true]
def lit5 : List Event :=
  [.newItem true "EEEEEE" "uuid-e" "" .todo "Release 1.0" "" (some 100),
   .newItem false "AAAAAA" "uuid-a" "EEEEEE" .todo "Write the code" "all of it" (some 200),
   .newItem false "BBBBBB" "uuid-b" "EEEEEE" .todo "Test the code" "" (some 300),
   .link "BBBBBB" "AAAAAA" true,
   .claim "AAAAAA" "ag-1" (some 500),
   .state "AAAAAA" .doing (some 500)]
def lit6 : List Event :=
  [.newItem true "EEEEEE" "uuid-e" "" .todo "Release 1.0" "" (some 100),
   .newItem false "AAAAAA" "uuid-a" "EEEEEE" .todo "Write the code" "all of it" (some 200),
   .newItem false "BBBBBB" "uuid-b" "EEEEEE" .todo "Test the code" "" (some 300),
   .link "BBBBBB" "AAAAAA" true,
   .claim "AAAAAA" "ag-1" (some 500),
   .state "AAAAAA" .doing (some 500),
   .result "AAAAAA" "code written" "out/report.txt" "sha-1" "mtime-1" "git-1" (some 600),
   .state "AAAAAA" .done (some 600)]
def lit7 : List Event :=
  [.newItem true "EEEEEE" "uuid-e" "" .todo "Release 1.0" "" (some 100),
   .newItem false "AAAAAA" "uuid-a" "EEEEEE" .todo "Write the code" "all of it" (some 200),
   .newItem false "BBBBBB" "uuid-b" "EEEEEE" .todo "Test the code" "" (some 300),
   .link "BBBBBB" "AAAAAA" true,
   .claim "AAAAAA" "ag-1" (some 500),
   .state "AAAAAA" .doing (some 500),
   .result "AAAAAA" "code written" "out/report.txt" "sha-1" "mtime-1" "git-1" (some 600),
   .state "AAAAAA" .done (some 600),
   .newItem false "CCCCCC" "uuid-c" "EEEEEE" .todo "Ship it" "" (some 700),
   .state "CCCCCC" .blocked (some 700)]
def lit8 : List Event :=
  [.newItem true "EEEEEE" "uuid-e" "" .todo "Release 1.0" "" (some 100),
   .newItem false "AAAAAA" "uuid-a" "EEEEEE" .todo "Write the code" "all of it" (some 200),
   .newItem false "BBBBBB" "uuid-b" "EEEEEE" .todo "Test the code" "" (some 300),
   .link "BBBBBB" "AAAAAA" true,
   .claim "AAAAAA" "ag-1" (some 500),
   .state "AAAAAA" .doing (some 500),
   .result "AAAAAA" "code written" "out/report.txt" "sha-1" "mtime-1" "git-1" (some 600),
   .state "AAAAAA" .done (some 600),
   .newItem false "CCCCCC" "uuid-c" "EEEEEE" .todo "Ship it" "" (some 700),
   .state "CCCCCC" .blocked (some 700),
   .link "CCCCCC" "BBBBBB" true]
def lit9 : List Event :=
  [.newItem true "EEEEEE" "uuid-e" "" .todo "Release 1.0" "" (some 100),
   .newItem false "AAAAAA" "uuid-a" "EEEEEE" .todo "Write the code" "all of it" (some 200),
   .newItem false "BBBBBB" "uuid-b" "EEEEEE" .todo "Test the code" "" (some 300),
   .link "BBBBBB" "AAAAAA" true,
   .claim "AAAAAA" "ag-1" (some 500),
   .state "AAAAAA" .doing (some 500),
   .result "AAAAAA" "code written" "out/report.txt" "sha-1" "mtime-1" "git-1" (some 600),
   .state "AAAAAA" .done (some 600),
   .newItem false "CCCCCC" "uuid-c" "EEEEEE" .todo "Ship it" "" (some 700),
   .state "CCCCCC" .blocked (some 700),
   .link "CCCCCC" "BBBBBB" true,
   .tombstone "AAAAAA" "ag-2" (some 900)]
def lit10 : List Event :=
  [.newItem true "EEEEEE" "uuid-e" "" .todo "Release 1.0" "" (some 100),
   .newItem false "AAAAAA" "uuid-a" "EEEEEE" .todo "Write the code" "all of it" (some 200),
   .newItem false "BBBBBB" "uuid-b" "EEEEEE" .todo "Test the code" "" (some 300),
   .link "BBBBBB" "AAAAAA" true,
   .claim "AAAAAA" "ag-1" (some 500),
   .state "AAAAAA" .doing (some 500),
   .result "AAAAAA" "code written" "out/report.txt" "sha-1" "mtime-1" "git-1" (some 600),
   .state "AAAAAA" .done (some 600),
   .newItem false "CCCCCC" "uuid-c" "EEEEEE" .todo "Ship it" "" (some 700),
   .state "CCCCCC" .blocked (some 700),
   .link "CCCCCC" "BBBBBB" true,
   .tombstone "AAAAAA" "ag-2" (some 900),
   .claim "BBBBBB" "ag-2" (some 1000),
   .state "BBBBBB" .doing (some 1000)]
def lit11 : List Event :=
  [.newItem false "BBBBBB" "uuid-b" "EEEEEE" .todo "Test the code" "" (some 300),
   .state "BBBBBB" .doing (some 1000),
   .claim "BBBBBB" "ag-2" (some 1000),
   .newItem false "CCCCCC" "uuid-c" "EEEEEE" .todo "Ship it" "" (some 700),
   .state "CCCCCC" .blocked (some 700),
   .newItem true "EEEEEE" "uuid-e" "" .todo "Release 1.0" "" (some 100),
   .link "CCCCCC" "BBBBBB" true]

def tE  : Task := freshTask true  "EEEEEE" "uuid-e" "" "Release 1.0" "" 100
def tA0 : Task := freshTask false "AAAAAA" "uuid-a" "EEEEEE" "Write the code" "all of it" 200
def tB0 : Task := freshTask false "BBBBBB" "uuid-b" "EEEEEE" "Test the code" "" 300
/-- A after `claim` by ag-1 -/
def tA1 : Task := { tA0 with st := .doing, claimedBy := "ag-1", lastClaim := 500, lastState := 500, updatedAt := 500 }
/-- A after `set state=done` with a result attached -/
def tA2 : Task := { tA1 with st := .done, claimedBy := "", lastState := 600, updatedAt := 600,
                             results := [⟨"code written", "out/report.txt", "sha-1", "mtime-1", "git-1", 600⟩] }
/-- C is created and moved to `blocked` in one section -/
def tC1 : Task := { freshTask false "CCCCCC" "uuid-c" "EEEEEE" "Ship it" "" 700 with st := .blocked, lastState := 700 }
/-- B after `claim BBBBBB` by ag-2 -/
def tB1 : Task := { tB0 with st := .doing, claimedBy := "ag-2", lastClaim := 1000, lastState := 1000, updatedAt := 1000 }

def g0  : Graph := Graph.empty
def g1  : Graph := ⟨[tE], [], []⟩
def g2  : Graph := ⟨[tE, tA0], [], []⟩
def g3  : Graph := ⟨[tE, tA0, tB0], [], []⟩
def g4  : Graph := ⟨[tE, tA0, tB0], [("BBBBBB", "AAAAAA")], []⟩
def g5  : Graph := ⟨[tE, tA1, tB0], [("BBBBBB", "AAAAAA")], []⟩
def g6  : Graph := ⟨[tE, tA2, tB0], [("BBBBBB", "AAAAAA")], []⟩
def g7  : Graph := ⟨[tE, tA2, tB0, tC1], [("BBBBBB", "AAAAAA")], []⟩
def g8  : Graph := ⟨[tE, tA2, tB0, tC1], [("BBBBBB", "AAAAAA"), ("CCCCCC", "BBBBBB")], []⟩
def g9  : Graph := ⟨[tE, tB0, tC1], [("CCCCCC", "BBBBBB")], ["AAAAAA"]⟩
def g10 : Graph := ⟨[tE, tB1, tC1], [("CCCCCC", "BBBBBB")], ["AAAAAA"]⟩
def g11 : Graph := ⟨[tB1, tC1, tE], [("CCCCCC", "BBBBBB")], []⟩

/-- `log` — written out, `lit` — is CLI-reachable and replays to `g` -/
structure At (log lit : List Event) (g : Graph) : Prop where
  eq    : log = lit
  reach : ReachOK lit
  raw   : replayRaw lit = .ok g

/-- one command of the history: on `lit`, which replays to `g`, it is admissible and succeeds, leaving `lit'`, which replays to `g'` -/
structure Ran (lit : List Event) (g : Graph) (env : Env) (req : Request) (lit' : List Event) (g' : Graph) : Prop where
  envOK : EnvOK g env
  ok    : (runCmd lit env req).err = none
  log   : (runCmd lit env req).log = lit'
  raw   : replayRaw lit' = .ok g'

instance (lit : List Event) (g : Graph) (env : Env) (req : Request) (lit' : List Event) (g' : Graph) : Decidable (Ran lit g env req lit' g') :=
  decidable_of_iff (EnvOK g env ∧ (runCmd lit env req).err = none ∧ (runCmd lit env req).log = lit' ∧ replayRaw lit' = .ok g')
    ⟨fun ⟨a, b, c, d⟩ => ⟨a, b, c, d⟩, fun ⟨a, b, c, d⟩ => ⟨a, b, c, d⟩⟩

theorem At.step {log lit lit' : List Event} {g g' : Graph} {env : Env} {req : Request} (h : At log lit g) (r : Ran lit g env req lit' g') :
    At (runCmd log env req).log lit' g' :=
  ⟨h.eq ▸ r.log, r.log ▸ .step env req h.reach h.raw r.envOK, r.raw⟩

theorem At.inv {log lit : List Event} {g : Graph} (h : At log lit g) : AllInv g := by
  obtain ⟨g', hr', hinv⟩ := reach_allInv lit h.reach
  cases h.raw.symm.trans hr'; exact hinv

theorem At.replay {log lit : List Event} {g : Graph} (h : At log lit g) : replay lit = .ok g := replay_eq_raw h.raw h.inv.ok

theorem ran1 : Ran lit0 g0 env1 req1 lit1 g1 := by decide +kernel
theorem ran2 : Ran lit1 g1 env2 req2 lit2 g2 := by decide +kernel
theorem ran3 : Ran lit2 g2 env3 req3 lit3 g3 := by decide +kernel
theorem ran4 : Ran lit3 g3 env4 req4 lit4 g4 := by decide +kernel
theorem ran5 : Ran lit4 g4 env5 req5 lit5 g5 := by decide +kernel
theorem ran6 : Ran lit5 g5 env6 req6 lit6 g6 := by decide +kernel
theorem ran7 : Ran lit6 g6 env7 req7 lit7 g7 := by decide +kernel
theorem ran8 : Ran lit7 g7 env8 req8 lit8 g8 := by decide +kernel
theorem ran9 : Ran lit8 g8 env9 req9 lit9 g9 := by decide +kernel
theorem ran10 : Ran lit9 g9 env10 req10 lit10 g10 := by decide +kernel

/-! `rw [log5]` first: `at4.step ran5` alone elaborates too (the elaborator unfolds `log5`), but the kernel then checks
    `(runCmd log4 env5 req5).log ≡ log5` by evaluating `runCmd` again, which is slow -/
theorem at0 : At log0 lit0 g0 := ⟨rfl, .init, rfl⟩
theorem at1 : At log1 lit1 g1 := by rw [log1]; exact at0.step ran1
theorem at2 : At log2 lit2 g2 := by rw [log2]; exact at1.step ran2
theorem at3 : At log3 lit3 g3 := by rw [log3]; exact at2.step ran3
theorem at4 : At log4 lit4 g4 := by rw [log4]; exact at3.step ran4
theorem at5 : At log5 lit5 g5 := by rw [log5]; exact at4.step ran5
theorem at6 : At log6 lit6 g6 := by rw [log6]; exact at5.step ran6
theorem at7 : At log7 lit7 g7 := by rw [log7]; exact at6.step ran7
theorem at8 : At log8 lit8 g8 := by rw [log8]; exact at7.step ran8
theorem at9 : At log9 lit9 g9 := by rw [log9]; exact at8.step ran9
theorem at10 : At log10 lit10 g10 := by rw [log10]; exact at9.step ran10

/-! step 11 sorts three tasks: the kernel unfolds `List.mergeSort` (well-founded recursion) on one element at most, so the sort is computed by rewriting -/
theorem sort10 : [tE, tB1, tC1].mergeSort taskIdLe = [tB1, tC1, tE] := by
  have h1 : taskIdLe tE tB1 = false := by decide
  have h2 : taskIdLe tB1 tC1 = true := by decide
  have h3 : taskIdLe tE tC1 = false := by decide
  simp [List.mergeSort, List.MergeSort.Internal.splitInTwo, h1, h2, h3]
theorem compact10 : compactEvents g10 = lit11 := by
  have h : (g10.deps.mergeSort edgeLe) = [("CCCCCC", "BBBBBB")] := by simp [g10]
  rw [compactEvents, h]
  simp only [g10, sort10]
  decide +kernel
theorem run11 : runCmd lit10 env11 req11 = { err := none, log := lit11, write := some (.replace lit11), out := {} } := by
  simp [runCmd, sectionOf, req11, runSec, at10.replay, secCompact, applyWrite, compact10]
theorem ran11 : Ran lit10 g10 env11 req11 lit11 g11 := ⟨by decide, by rw [run11], by rw [run11], by decide +kernel⟩
theorem at11 : At log11 lit11 g11 := by rw [log11]; exact at10.step ran11

def demoLog : List Event := log11
theorem demoLog_eq : demoLog = lit11 := at11.eq

/-- every command of the history succeeded (stated on the logs as *defined by running the commands*) -/
theorem demo_all_succeed :
    (runCmd log0 env1 req1).err = none ∧ (runCmd log1 env2 req2).err = none ∧ (runCmd log2 env3 req3).err = none ∧
    (runCmd log3 env4 req4).err = none ∧ (runCmd log4 env5 req5).err = none ∧ (runCmd log5 env6 req6).err = none ∧
    (runCmd log6 env7 req7).err = none ∧ (runCmd log7 env8 req8).err = none ∧ (runCmd log8 env9 req9).err = none ∧
    (runCmd log9 env10 req10).err = none ∧ (runCmd log10 env11 req11).err = none := by
  rw [at0.eq, at1.eq, at2.eq, at3.eq, at4.eq, at5.eq, at6.eq, at7.eq, at8.eq, at9.eq, at10.eq]
  exact ⟨ran1.ok, ran2.ok, ran3.ok, ran4.ok, ran5.ok, ran6.ok, ran7.ok, ran8.ok, ran9.ok, ran10.ok, ran11.ok⟩

theorem demo_reach : ReachOK demoLog := demoLog_eq ▸ at11.reach

/-- the state just before `compact` (it still has the tombstone of the pruned task) -/
theorem demo_reach_before_compact : ReachOK log10 := at10.eq ▸ at10.reach

theorem demo_secReach : SecReach demoLog := secReach_of_reachOK _ demo_reach

theorem demo_nontrivial :
    (∃ t ∈ g11.tasks, t.isEpic = true) ∧
    2 ≤ (g11.tasks.filter fun t => !t.isEpic).length ∧
    ("CCCCCC", "BBBBBB") ∈ g11.deps ∧
    (∃ t ∈ g11.tasks, t.st = .doing ∧ t.claimedBy = "ag-2") ∧
    (∃ t ∈ g11.tasks, t.st = .blocked) ∧
    (∃ t ∈ g11.tasks, t.isEpic = false ∧ t.epicId = "EEEEEE") ∧
    g10.tombs = ["AAAAAA"] ∧
    (∃ t ∈ g8.tasks, t.st = .done ∧ t.results.length = 1) := by decide +kernel

theorem inv4  : AllInv g4  := at4.inv
theorem inv5  : AllInv g5  := at5.inv
theorem inv8  : AllInv g8  := at8.inv
theorem inv9  : AllInv g9  := at9.inv
theorem inv10 : AllInv g10 := at10.inv

theorem replay11 : replay lit11 = .ok g11 := at11.replay
theorem demo_replay : replay demoLog = .ok g11 := demoLog_eq ▸ replay11
example : ∃ g, replay demoLog = .ok g ∧ AllInv g := reach_replay demoLog demo_reach
example : ∃ g, replayRaw demoLog = .ok g ∧ AllInv g := secReach_allInv demoLog demo_secReach

example : (∃ g0, replay lit4 = .ok g0 ∧ Inv06 g0) ∧ (∃ g1, replay (runCmd lit4 env5 req5).log = .ok g1 ∧ Inv06 g1) :=
  C04_no_half_claim lit4 at4.reach env5 req5 g4 ran5.envOK at4.raw

/-! C05: compaction of the store that still holds the tombstone and the claimed task -/
example : ∃ g g', replay log10 = .ok g ∧ replay (compactEvents g) = .ok g' ∧ ObsEq g' g ∧ g'.tombs = [] ∧
    (∀ i ∈ g.tombs, g'.has i = false) ∧ AllInv g' := C05_observables_preserved log10 demo_reach_before_compact
/-- compacting the compacted store (`g11`) writes the same log as compacting the store before (`g10`) -/
example : compactEvents g11 = compactEvents g10 :=
  C05_idempotent lit10 at10.reach g10 g11 at10.replay (compact10 ▸ replay11)
example : ReachOK (runCmd lit10 env11 .compact).log := C05_compaction_is_a_reachable_step lit10 at10.reach g10 at10.raw env11 ran11.envOK
/-- C05 (torn claim): `lit4` plus the whole claim line of a `claim` of A whose state line was cut: A is todo with claimant "cut" (not a
    CLI-reachable state); compaction keeps exactly that -/
example : ∃ g g', replay (lit4 ++ [Event.claim "AAAAAA" "cut" (some 450)]) = .ok g ∧ replay (compactEvents g) = .ok g' ∧ ObsEq g' g ∧ g'.tombs = [] :=
  C05_half_written_claim_preserved lit4 at4.reach "AAAAAA" "cut" 450 (by decide)
example : (replay (lit4 ++ [Event.claim "AAAAAA" "cut" (some 450)])).toOption.bind (fun g => (g.find? "AAAAAA").map fun t => (t.st, t.claimedBy))
    = some (.todo, "cut") := by decide +kernel

/-- C05 of any log that replays, here `lit5` -/
example : ∃ g', replayRaw (compactEvents g5) = .ok g' ∧ (∀ id, (g'.find? id).map Task.core = (g5.find? id).map Task.core) ∧
    (∀ e, e ∈ g'.deps ↔ e ∈ g5.deps) ∧ g'.tombs = [] := C05_items_survive_compaction_of_any_log lit5 g5 at5.raw

example : ∃ g, replay demoLog = .ok g ∧ Inv06 g := C06_inv_reach demoLog demo_reach
example : TaskInv tB1 := at11.inv.i06 tB1 (by decide +kernel)
example : (runCmd lit10 { agent := "ag-3", times := [1200] } (.set "BBBBBB" (jsonIn { state := some "error", claim := some "" }))).log = lit10 :=
  C06_rejected_untouched lit10 _ _ .validation (by decide)
/-- an illegal transition (blocked → error) is refused -/
example : (runCmd lit10 { agent := "ag-3", times := [1200] } (.set "CCCCCC" (jsonIn { state := some "error" }))).log = lit10 :=
  C06_rejected_untouched lit10 _ _ .badTransition (by decide +kernel)
example : TaskInv ((([Event.claim "AAAAAA" "ag-1" (some 500), Event.state "AAAAAA" .doing (some 500)] : List Event).foldl stepTask tA0)) :=
  (C06_accepted_moves_in_table tA0 { claim := some "ag-1", state := some "doing" } "ag-1" 500 _ (inv4.i06 tA0 (by decide +kernel))
    (by intro h; cases h) (by decide)).1

example : ∃ g, replay demoLog = .ok g ∧ Inv07 g ∧ (∀ e ∈ g.deps, e.1 ≠ e.2) ∧ (∀ e ∈ g.deps, e.1 ∉ g.tombs ∧ e.2 ∉ g.tombs) :=
  C07_inv_reach demoLog demo_reach
/-- the opposite edge B→C would close a cycle with C→B: the test says so, and the command is refused -/
example : "BBBBBB" = "CCCCCC" ∨ Path g11.deps "CCCCCC" "BBBBBB" := (C07_cycle_test_exact g11 "BBBBBB" "CCCCCC").1 (by decide)
example : (runCmd lit11 { agent := "ag-3" } (.sequence ["CCCCCC", "BBBBBB"])).err = some .depCycle := by decide +kernel
/-- the edge that was accepted in step 8 satisfied every rule -/
example : g7.tombed "CCCCCC" = false ∧ g7.tombed "BBBBBB" = false ∧ "CCCCCC" ≠ "BBBBBB" ∧ ¬ Path g7.deps "BBBBBB" "CCCCCC" ∧
    ∃ a b, g7.find? "CCCCCC" = some a ∧ g7.find? "BBBBBB" = some b ∧ a.isEpic = b.isEpic :=
  C07_link_accepted_only_if g7 "CCCCCC" "BBBBBB" (by decide)

/-- after A was pruned, B (which waited for A) is ready in the manual's sense -/
example : ReadySpec g9 tB0 := (C08_ready_iff g9 inv9.ok.wf tB0).1 (by decide)
/-- while A was still todo, B was not ready but blocked -/
example : BlockedSpec g4 tB0 := (C08_blocked_iff g4 inv4.ok.wf tB0).1 (by decide)
example : ∀ e ∈ g10.deps, e.1 ≠ "AAAAAA" ∧ e.2 ≠ "AAAAAA" :=
  C08_pruned_dep_gone lit10 g10 "AAAAAA" "ag-2" (some 900) (by decide) at10.replay
/-- step 5 took the oldest ready task -/
example : tA0 ∈ g4.tasks ∧ tA0.isEpic = false ∧ isReady g4 tA0 = true ∧ (∀ u ∈ readyTasks g4 "", claimLe tA0 u = true) :=
  C08_claim_takes_oldest g4 "" "ag-1" 500 (.append [Event.claim "AAAAAA" "ag-1" (some 500), Event.state "AAAAAA" .doing (some 500)]) tA0
    (by decide +kernel)
example : ∃ g, replay demoLog = .ok g ∧ WF g := C08_applies_to_reachable demoLog demo_reach

/-- step 9 pruned A because it was a done task (that the epic had to stay: the C14 example below) -/
example : ∃ t ∈ g8.tasks, t.id = "AAAAAA" ∧
    ((t.isEpic = false ∧ (t.st = .done ∨ t.st = .canceled)) ∨
     (t.isEpic = true ∧ ∀ c ∈ g8.tasks, c.isEpic = false → c.epicId ≠ "" → c.epicId = t.id → (c.st = .done ∨ c.st = .canceled))) :=
  (C09_policy g8 "AAAAAA").1 (by decide +kernel)
theorem tB0_mem8 : tB0 ∈ g8.tasks := by decide +kernel
example : tB0.id ∉ pruneTargets g8 := C09_never_active g8 inv8.ok.wf tB0 tB0_mem8 rfl (Or.inl rfl)
example : g10.has "AAAAAA" = false ∧ (∀ e ∈ g10.deps, e.1 ≠ "AAAAAA" ∧ e.2 ≠ "AAAAAA") :=
  C09_gone lit9 [Event.claim "BBBBBB" "ag-2" (some 1000), Event.state "BBBBBB" .doing (some 1000)] g10 "AAAAAA" "ag-2" (some 900)
    (by decide) at10.replay
example : secUpdate g10 "AAAAAA" {} "ag-3" (.rejected "none") 1200 = .error (.pruned "AAAAAA") :=
  (C09_refused g10 "AAAAAA" (by decide) {} "ag-3" (.rejected "none") 1200 "BBBBBB").1
/-- step 3: the RNG first proposed the live id "AAAAAA"; the id issued is fresh -/
example : g2.tombed "BBBBBB" = false ∧ g2.has "BBBBBB" = false ∧ "BBBBBB" ∈ ["AAAAAA", "BBBBBB"] :=
  C09_never_reissued g2 false "EEEEEE" "Test the code" "" {} ["AAAAAA", "BBBBBB"] "uuid-b" "ag-1" (.rejected "none") 300
    (.append [Event.newItem false "BBBBBB" "uuid-b" "EEEEEE" .todo "Test the code" "" (some 300)]) "BBBBBB" (by decide +kernel)

example : (runCmd lit10 { agent := "ag-3", times := [1200] } (.claim "AAAAAA")).log = lit10 ∧
    (runCmd lit10 { agent := "ag-3", times := [1200] } (.claim "AAAAAA")).write = none :=
  C10_failure_changes_nothing lit10 _ _ (.pruned "AAAAAA") (by decide +kernel)
example (ets : Event → String) (f : Storage.Bytes) :
    Codec.fileAfter ets f (runCmd lit10 { agent := "ag-3", times := [1200] } (.claim "AAAAAA")).write = f :=
  C10_failure_leaves_every_byte lit10 _ _ (.pruned "AAAAAA") ets f (by decide +kernel)
example : secLinks g11 false [("EEEEEE", "BBBBBB")] = .error .depKinds :=
  C10_sequence_all_or_nothing g11 false _ _ (by decide)

def demoPlan : PlanInput :=
  { title := some "Release 2.0",
    tasks := [{ title := some "design" }, { title := some "build", after := ["design"] },
              { title := some "ship", body := some "to everyone", after := ["design", "build"] }] }
theorem demoPlan_valid : planValid demoPlan = true := by decide +kernel
example : Acyclic (planEdges demoPlan) := ((C11_valid_iff demoPlan).1 demoPlan_valid).2.2.2.2.2.2
def envP : Env := { agent := "ag-3", times := [1200, 1201, 1202, 1203], ids := ["PPPPPP", "QQQQQQ", "BBBBBB", "RRRRRR", "SSSSSS"],
                    uuids := ["uuid-p", "uuid-q", "uuid-r", "uuid-s"] }
theorem envOKP : EnvOK g11 envP := by decide +kernel
theorem runP : (runCmd lit11 envP (.plan (some demoPlan))).err = none := by decide +kernel
example : ∃ w, (runCmd lit11 envP (.plan (some demoPlan))).write = some w ∧
    (∃ new, w = .replace (lit11 ++ new) ∧ (runCmd lit11 envP (.plan (some demoPlan))).log = lit11 ++ new) ∧
    ∃ g', replay (runCmd lit11 envP (.plan (some demoPlan))).log = .ok g' ∧ AllInv g' := by
  cases hw : (runCmd lit11 envP (.plan (some demoPlan))).write with
  | none => exact absurd runP (C16_no_write_means_error lit11 envP _ hw nofun)
  | some w => exact ⟨w, rfl, C11_effect lit11 at11.reach g11 at11.raw envP envOKP demoPlan w hw⟩
example : (runCmd lit11 envP (.plan (some { demoPlan with title := some "  " }))).log = lit11 :=
  (C11_invalid_nothing lit11 envP _ (Or.inr ⟨_, rfl, by decide⟩)).1

example : readyTasks g9 "" = readyTasks ⟨[tC1, tB0, tE], g9.deps, g9.tombs⟩ "" ∧
    pruneTargets g9 = pruneTargets ⟨[tC1, tB0, tE], g9.deps, g9.tombs⟩ ∧
    compactEvents g9 = compactEvents ⟨[tC1, tB0, tE], g9.deps, g9.tombs⟩ :=
  C12_deterministic_queries g9 ⟨[tC1, tB0, tE], g9.deps, g9.tombs⟩ inv9.ok.wf
    (by decide +kernel) (List.Perm.refl _) ""
example : ∃ more, (runCmd lit9 env10 req10).log = lit9 ++ more :=
  C12_history_grows lit9 env10 req10 (by intro a; simp [req10, sectionOf]; split <;> simp)
/-! the order of the lines, not their stamps: `lit5` with A's claim and state stamped 1 instead of 500 is the same graph up to clock readings -/
def lit5skew : List Event := lit4 ++ [.claim "AAAAAA" "ag-1" (some 1), .state "AAAAAA" .doing (some 1)]
theorem same45 : SameLines lit5 lit5skew :=
  .cons id (.cons id (.cons id (.cons id (.cons (fun _ => 1) (.cons (fun _ => 1) .nil)))))
example : (replay lit5).map Graph.untimed = (replay lit5skew).map Graph.untimed := C12_replay_ignores_stamp_values same45
example : ∃ g', replay lit5skew = .ok g' := stamp_free_ok same45 (at5.replay)

example : ∃ g, replay demoLog = .ok g ∧ Inv14 g ∧ WF g := C14_inv_reach demoLog demo_reach
/-- prune in step 9 had to keep the epic: B (not pruned) references it -/
example : tE.id ∉ pruneTargets g8 :=
  C14_prune_keeps_referenced_epics g8 inv8.ok.wf tB0 tE tB0_mem8 (by decide) rfl rfl rfl (by decide)
    (C09_never_active g8 inv8.ok.wf tB0 tB0_mem8 rfl (Or.inl rfl))
/-- moving C under the plain task B, or creating a task under the (compacted-away) id of A, is refused -/
example : ∃ err, updateEvents g11 tC1 { u := { epic := some "BBBBBB" } } "ag-3" (.rejected "none") 1200 = .error err :=
  C14_set_rejects_bad_epic g11 tC1 "BBBBBB" _ _ _ _ rfl (by decide) rfl rfl (Or.inr (Or.inr ⟨tB1, by decide +kernel, rfl⟩))
example : ∃ err, secCreate g11 false "AAAAAA" "x" "" {} ["XXXXXX"] "u" "ag-3" (.rejected "none") 1200 = .error err :=
  C14_create_rejects_bad_epic g11 "AAAAAA" "x" "" {} ["XXXXXX"] "u" "ag-3" _ 1200 (by decide) (Or.inl (by decide))

/-! C15 (the part that holds): no epic-level edges in the demo store, so waits are acyclic and a todo task is ready -/
example : WaitsAcyclic g4 := C15_partial_no_epic_edges g4 inv4 (by decide)
example : ∃ t ∈ g4.tasks, t.isEpic = false ∧ isReady g4 t = true :=
  C15_progress_if_acyclic g4 inv4 (C15_partial_no_epic_edges g4 inv4 (by decide)) (by unfold closedSt; decide) (by decide)

/-! C16: the replies of steps 6, 5, 10, 9, 8, 7 are what the next read shows -/
example : ∃ g' t', replay (runCmd lit5 env6 req6).log = .ok g' ∧ g'.find? "AAAAAA" = some t' ∧
    replyOf env6 req6 (runCmd lit5 env6 req6) = some (.set "AAAAAA" (updatedFields (jsonIn { state := some "done", resultPath := some "out/report.txt", resultSummary := some "code written" })) t'.st t'.claimedBy) :=
  C16_set_reply_is_next_read lit5 g5 at5.raw inv5 env6 ran6.envOK "AAAAAA" _ ran6.ok
example : ∃ t g' t', (readyTasks g4 "").head? = some t ∧ replay (runCmd lit4 env5 req5).log = .ok g' ∧ g'.find? t.id = some t' ∧
      t'.st = .doing ∧ t'.claimedBy = env5.agent ∧ t'.title = t.title ∧ t'.body = t.body ∧ t'.epicId = t.epicId ∧
      replyOf env5 req5 (runCmd lit4 env5 req5) = some (.claimed t.id t.epicId .doing t.title t.body env5.agent env5.now) :=
  C16_claim_oldest_reply_is_next_read lit4 g4 at4.raw inv4 env5 ran5.envOK (by decide) "" (by decide +kernel)
example : ∃ g' t', replay (runCmd lit9 env10 req10).log = .ok g' ∧ g'.find? "BBBBBB" = some t' ∧
      t'.st = .doing ∧ t'.claimedBy = env10.agent ∧
      replyOf env10 req10 (runCmd lit9 env10 req10) =
        some (.claimed "BBBBBB" t'.epicId .doing t'.title t'.body env10.agent (claimedAt t')) :=
  C16_claim_id_reply_is_next_read lit9 g9 at9.raw inv9 env10 ran10.envOK "BBBBBB" ran10.ok
example : replyOf env9 req9 (runCmd lit8 env9 req9) = some (.pruned false (pruneTargets g8)) :=
  C16_prune_reply_is_policy lit8 g8 at8.raw inv8 env9 true
example : ∃ un es g', replyOf env8 req8 (runCmd lit7 env8 req8) = some (.sequence un es) ∧
      replay (runCmd lit7 env8 req8).log = .ok g' ∧ ∀ e ∈ es, (e ∈ g'.deps) = !un :=
  C16_sequence_reply_is_next_read lit7 g7 at7.raw at7.inv env8 ran8.envOK ["BBBBBB", "CCCCCC"] ran8.ok
example : let res := runCmd lit6 env7 req7
    ∃ g' t', replay res.log = .ok g' ∧ res.out.created = some t'.id ∧ g'.find? t'.id = some t' ∧
      replyOf env7 req7 res = some (.created t'.isEpic t'.id t'.uuid t'.epicId t'.st t'.title t'.body t'.createdAt) := by
  have h := C16_created_reply_is_next_read lit6 g6 at6.raw at6.inv env7 ran7.envOK _ true ran7.ok
  -- made to match word for word first: up to unfolding, `isDefEq` compares the two `runCmd … .log` by evaluating them
  simp only [if_true] at h
  rw [req7]
  exact h

theorem ready4 : readyTasks g4 "" = [tA0] := by decide +kernel

theorem runSec9 : runSec lit8 env9 (.prune true) =
    .ok ((secPrune g8 true "ag-2" 900).1, { pruned := (secPrune g8 true "ag-2" 900).2, now := 900 }) := by
  unfold runSec; rw [at8.replay]; rfl
example : (secPrune g8 true "ag-2" 900).2 = pruneTargets g8 ∧ ∃ g', replayRaw (applyWrite lit8 (secPrune g8 true "ag-2" 900).1) = .ok g' ∧
      (∀ i ∈ (secPrune g8 true "ag-2" 900).2, g'.has i = false) ∧
      (∀ t ∈ g8.tasks, t.id ∉ (secPrune g8 true "ag-2" 900).2 → g'.has t.id = true) :=
  C16_prune_reply_true lit8 g8 at8.raw inv8 env9 ran9.envOK _ _ runSec9

theorem runSec5 : runSec lit4 env5 (.claimOldest "") =
    .ok (.append [Event.claim "AAAAAA" "ag-1" (some 500), Event.state "AAAAAA" .doing (some 500)], { claimed := some tA0, now := 500 }) := by
  unfold runSec; rw [at4.replay]; simp only [secClaimOldest, ready4]; rfl
example : ∃ t, (some tA0 : Option Task) = some t ∧ ∃ g' t', replayRaw (applyWrite lit4 (.append [Event.claim "AAAAAA" "ag-1" (some 500), Event.state "AAAAAA" .doing (some 500)])) = .ok g' ∧
      g'.find? t.id = some t' ∧ t'.st = .doing ∧ t'.claimedBy = env5.agent :=
  C16_claim_reply_true lit4 g4 at4.raw inv4 env5 ran5.envOK (by decide) "" _ _ runSec5

example : ∃ w out, runSec lit6 env7 (.create false "EEEEEE" "Ship it" "" { u := { state := some "blocked" } }) = .ok (w, out) ∧
    ∃ id, out.created = some id ∧ g6.has id = false ∧ g6.tombed id = false ∧ id ∈ env7.ids ∧
      ∃ g', replayRaw (applyWrite lit6 w) = .ok g' ∧ g'.has id = true := by
  cases hw : (runCmd lit6 env7 req7).write with
  | none => exact absurd ran7.ok (C16_no_write_means_error _ _ _ hw nofun)
  | some w =>
    obtain ⟨sec, out, hs, hrun, _⟩ := C02_one_section_per_command lit6 env7 req7 w hw
    have hsec : sectionOf env7.agent req7 = .ok (.create false "EEEEEE" "Ship it" "" { u := { state := some "blocked" } }) := by decide
    cases hsec.symm.trans hs
    exact ⟨w, out, hrun, C16_created_id_fresh_and_visible lit6 g6 at6.raw at6.inv env7 ran7.envOK _ _ _ _ _ w out (by decide) hrun⟩

example : ∃ g g', replay log8 = .ok g ∧ replay (compactEvents g) = .ok g' ∧
      ∀ id, (g'.find? id).map (fun t => (t.title, t.body)) = (g.find? id).map (fun t => (t.title, t.body)) :=
  C17_through_compact log8 (at8.eq ▸ at8.reach)
example : sectionOf "ag-1" (.newTask { piped := true, json := some { title := some "Write the code", body := some "all of it", epic := some "EEEEEE" } }) =
    .ok (.create false "EEEEEE" "Write the code" "all of it" {}) :=
  C17_json_create_verbatim "ag-1" { title := some "Write the code", body := some "all of it", epic := some "EEEEEE" } (by decide +kernel) ⟨rfl, rfl, rfl⟩
example : ∃ g, replay demoLog = .ok g ∧ ((Render.rows g .all).map (·.id)).Perm (g.tasks.map (·.id)) := C19_all_complete demoLog demo_reach
example : ∃ g, replay demoLog = .ok g ∧ ∀ t ∈ g.tasks, t.isEpic = false → (t.id ∈ (Render.rows g .ready).map (·.id) ↔ isReady g t = true) :=
  C19_ready_exact demoLog demo_reach
/-- the store of step 8 holds a result; compaction keeps it -/
example : ∃ g g', replay log8 = .ok g ∧ replay (compactEvents g) = .ok g' ∧
      ∀ id, (g'.find? id).map (·.results) = (g.find? id).map (·.results) := C20_compact_keeps_results log8 (at8.eq ▸ at8.reach)
example : g5.tombed "AAAAAA" = false ∧ ∃ t, g5.find? "AAAAAA" = some t ∧ t.isEpic = false ∧ resultSummaryOk "code written" = true ∧
    ∃ c sha m gi, env6.po = .ok c sha m gi :=
  C20_live_task_only g5 "AAAAAA" { u := { state := some "done" }, resultPath := some "out/report.txt", resultSummary := some "code written" }
    "ag-1" env6.po 600 (.append (lit6.drop 6)) "code written" "out/report.txt" ⟨rfl, rfl⟩ (by decide +kernel)
def tA1r : Task := { tA1 with updatedAt := 600, results := [⟨"code written", "out/report.txt", "sha-1", "mtime-1", "git-1", 600⟩] }
theorem apply_result : applyEvent g5 (.result "AAAAAA" "code written" "out/report.txt" "sha-1" "mtime-1" "git-1" (some 600)) =
    .ok ⟨[tE, tA1r, tB0], g5.deps, []⟩ := by decide +kernel
/-- C20: replaying the result event of step 6 prepends one result to A and drops none -/
example : (⟨[tE, tA1r, tB0], g5.deps, []⟩ : Graph).find? tA1.id = none ∨
    ∃ t', (⟨[tE, tA1r, tB0], g5.deps, []⟩ : Graph).find? tA1.id = some t' ∧ ∃ new, t'.results = new ++ tA1.results ∧ new.length ≤ 1 :=
  C20_accumulate g5 _ _ apply_result tA1 (by decide +kernel) inv5.ok.wf

end Witness
end Ergo
