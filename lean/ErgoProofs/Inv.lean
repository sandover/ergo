/-
  ErgoProofs.Inv — the invariant of every CLI-reachable store, `AllInv`, used through its per-item form (`ItemOK`; `AllInv.item`,
  `AllInv.of_items`) and carried from graph to graph by `AllInv.mono`; the environment under which commands keep it (`EnvOK`); the two
  notions of reachable log (by commands; by lock sections that meet `SecOK`).
-/
import ErgoProofs.Lemmas.Basics
namespace Ergo

/-- everything the property theorems need of a store, in one invariant -/
structure AllInv (g : Graph) : Prop where
  ok    : GraphOK g
  epic0 : ∀ t ∈ g.tasks, t.isEpic = true → t.lastEpic = 0
  i06   : Inv06 g
  i07   : Inv07 g
  i14   : Inv14 g
  ids   : ∀ t ∈ g.tasks, t.id ≠ ""

/-- `Inv14`'s clause for a task whose epic is `x` -/
def EpicRef (g : Graph) (x : Id) : Prop := x = "" ∨ ∃ ep ∈ g.tasks, ep.id = x ∧ ep.isEpic = true

/-- the clauses of `AllInv` about one item and the epic it names -/
structure ItemOK (g : Graph) (t : Task) : Prop where
  ok : TaskOK t
  inv : TaskInv t
  epic0 : t.isEpic = true → t.lastEpic = 0
  id_ne : t.id ≠ ""
  epicE : t.isEpic = true → t.epicId = ""
  epicR : t.isEpic = false → EpicRef g t.epicId

theorem AllInv.item {g : Graph} (h : AllInv g) {t : Task} (ht : t ∈ g.tasks) : ItemOK g t :=
  ⟨h.ok.tasks t ht, h.i06 t ht, h.epic0 t ht, h.ids t ht, (h.i14 t ht).1, (h.i14 t ht).2⟩

theorem AllInv.of_items {g : Graph} (hwf : WF g) (h07 : Inv07 g) (item : ∀ t ∈ g.tasks, ItemOK g t) : AllInv g :=
  ⟨⟨hwf, fun t ht => (item t ht).ok⟩, fun t ht => (item t ht).epic0, fun t ht => (item t ht).inv, h07,
    fun t ht => ⟨(item t ht).epicE, (item t ht).epicR⟩, fun t ht => (item t ht).id_ne⟩

theorem EpicRef.mono {g g' : Graph} (hkeep : ∀ t ∈ g.tasks, ∃ t' ∈ g'.tasks, t'.id = t.id ∧ t'.isEpic = t.isEpic) {x : Id}
    (h : EpicRef g x) : EpicRef g' x :=
  h.imp_right fun ⟨e, he, h1, h2⟩ => let ⟨e', he', h1', h2'⟩ := hkeep e he; ⟨e', he', h1'.trans h1, h2'.trans h2⟩

theorem EpicRef.of_find {g : Graph} {x : Id} (h : x = "" ∨ ∃ ep, g.find? x = some ep ∧ ep.isEpic = true) : EpicRef g x :=
  h.imp_right fun ⟨ep, hf, hE⟩ => ⟨ep, (Graph.mem_of_find? hf).1, (Graph.mem_of_find? hf).2, hE⟩

/-- Old items need only keep id and kind (`hkeep`): the clauses about other items see them only as "this id is live, of this kind". -/
theorem AllInv.mono {g g' : Graph} (h : AllInv g) (hwf : WF g')
    (hkeep : ∀ t ∈ g.tasks, ∃ t' ∈ g'.tasks, t'.id = t.id ∧ t'.isEpic = t.isEpic)
    (hitem : ∀ t' ∈ g'.tasks, t' ∈ g.tasks ∨ ItemOK g' t')
    (hac : Acyclic g'.deps)
    (hdeps : ∀ e ∈ g'.deps, e ∈ g.deps ∨
      ∃ a ∈ g'.tasks, ∃ b ∈ g'.tasks, a.id = e.1 ∧ b.id = e.2 ∧ a.isEpic = b.isEpic) : AllInv g' := by
  refine .of_items hwf ⟨hac, fun e he => (hdeps e he).elim (fun he => ?_) id⟩ fun t' ht' =>
    (hitem t' ht').elim (fun ht => { h.item ht with epicR := fun hE => ((h.item ht).epicR hE).mono hkeep }) id
  obtain ⟨a, ha, b, hb, h1, h2, h3⟩ := h.i07.live e he
  obtain ⟨a', ha', ha1, ha2⟩ := hkeep a ha
  obtain ⟨b', hb', hb1, hb2⟩ := hkeep b hb
  exact ⟨a', ha', b', hb', ha1.trans h1, hb1.trans h2, by rw [ha2, hb2, h3]⟩

/-- the epics of the new items may be among them -/
theorem AllInv.append {g : Graph} (h : AllInv g) (ts : List Task) (hwf : WF { g with tasks := g.tasks ++ ts })
    (hts : ∀ t ∈ ts, ItemOK { g with tasks := g.tasks ++ ts } t) : AllInv { g with tasks := g.tasks ++ ts } :=
  h.mono hwf (fun t ht => ⟨t, List.mem_append_left _ ht, rfl, rfl⟩)
    (fun t ht => (List.mem_append.1 ht).imp_right (hts t)) h.i07.acyclic fun _ he => Or.inl he

theorem AllInv.of_deps {g g' : Graph} (h : AllInv g) (hwf : WF g') (ht : g'.tasks = g.tasks) (hac : Acyclic g'.deps)
    (hlive : ∀ e ∈ g'.deps, e ∈ g.deps ∨
      ∃ a ∈ g.tasks, ∃ b ∈ g.tasks, a.id = e.1 ∧ b.id = e.2 ∧ a.isEpic = b.isEpic) : AllInv g' :=
  h.mono hwf (fun t h' => ⟨t, ht ▸ h', rfl, rfl⟩) (fun _ h' => Or.inl (ht ▸ h')) hac (ht ▸ hlive)

/-- every clock reading stored in an item -/
def Task.times (t : Task) : List Time :=
  [t.createdAt, t.updatedAt, t.lastState, t.lastClaim, t.lastTitle, t.lastBody, t.lastEpic] ++ t.results.map (·.time)

/-- what is assumed of the environment of one command on store `g`: the RNG never yields the empty id; the clock is read at least
    once, positive, and never behind a reading already stored (no power-loss / clock-step model) -/
structure EnvOK (g : Graph) (env : Env) : Prop where
  ids_ne : ∀ i ∈ env.ids, i ≠ ""
  enough : env.times ≠ []
  pos    : ∀ n ∈ env.times, 0 < n
  later  : ∀ t ∈ g.tasks, ∀ x ∈ t.times, ∀ n ∈ env.times, x ≤ n

/-- one lock section keeps the invariant (the proof obligation per section kind) -/
def SecStepOK (sec : Sec) : Prop :=
  ∀ (log : List Event) (g : Graph) (env : Env) (w : Write) (out : SecOut),
    replayRaw log = .ok g → AllInv g → EnvOK g env → runSec log env sec = .ok (w, out) →
    ∃ g', replayRaw (applyWrite log w) = .ok g' ∧ AllInv g'

/-- logs produced from the empty store by any sequence of commands whose environments satisfy `EnvOK` -/
inductive ReachOK : List Event → Prop where
  | init : ReachOK []
  | step {log : List Event} {g : Graph} (env : Env) (req : Request) :
      ReachOK log → replayRaw log = .ok g → EnvOK g env → ReachOK (runCmd log env req).log

/-- what `sectionOf` guarantees of the section it builds (`sectionOf_secOK`) and `secStep` (ReachInv.lean) needs of it to keep `AllInv` -/
def SecOK (env : Env) : Sec → Prop
  | .create _ _ title _ _ => Text.isBlank title = false
  | .claimOldest _ => env.agent ≠ ""
  | .plan p => planValid p = true
  | _ => True

/-- logs produced by any sequence of lock sections (the unit of serialisation) -/
inductive SecReach : List Event → Prop where
  | init : SecReach []
  | step {log : List Event} {g : Graph} (env : Env) (sec : Sec) (w : Write) (out : SecOut) :
      SecReach log → replayRaw log = .ok g → EnvOK g env → SecOK env sec → runSec log env sec = .ok (w, out) →
      SecReach (applyWrite log w)

end Ergo
