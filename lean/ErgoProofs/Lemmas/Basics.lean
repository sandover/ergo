/-
  The smallest pieces of the model, needed everywhere: the order on ids, `sortIds`, and the sort orders built on it (`lexLe`), `depsOf`;
  closed states; `Graph.find?`, `has`, `tombed` and maps over the items that keep their ids (`Graph.update`); `maxTimes l` is the least
  upper bound of `l`.
-/
import ErgoProofs.Spec
import ErgoProofs.Lemmas.ListAux
namespace Ergo

theorem strLe_iff (a b : String) : strLe a b = true ↔ a ≤ b := by
  simp [strLe, String.not_lt]

theorem strLe_total (a b : String) : (strLe a b || strLe b a) = true := by
  simp only [Bool.or_eq_true, strLe_iff]; exact String.le_total a b

theorem strLe_trans (a b c : String) : strLe a b = true → strLe b c = true → strLe a c = true := by
  simp only [strLe_iff]; exact String.le_trans

theorem strLe_antisymm (a b : String) : strLe a b = true → strLe b a = true → a = b := by
  simp only [strLe_iff]; exact String.le_antisymm

theorem strLe_refl (a : String) : strLe a a = true := by
  have := strLe_total a a; simpa using this

theorem mem_sortIds (l : List Id) (x : Id) : x ∈ sortIds l ↔ x ∈ l :=
  (List.mergeSort_perm l strLe).mem_iff

section Lex
variable {α κ : Type} [LT κ] [DecidableLT κ] [DecidableEq κ] (k : α → κ) (i : α → String)

/-- "first key, then id".  `claimLe`, `edgeLe` (and `keyLe`, CompactObs.lean; `createdLe`, View.lean, which has no lemmas) are this
    definitionally, though the model writes `a.createdAt < b.createdAt` for `decide (…)`: their lemmas below are `lexLe`'s by unfolding. -/
def lexLe (a b : α) : Bool := decide (k a < k b) || (k a == k b && strLe (i a) (i b))

theorem lexLe_iff (a b : α) : lexLe k i a b = true ↔ k a < k b ∨ (k a = k b ∧ i a ≤ i b) := by
  simp [lexLe, strLe_iff]

variable [LE κ] [Std.IsLinearOrder κ] [Std.LawfulOrderLT κ]

theorem lexLe_total (a b : α) : (lexLe k i a b || lexLe k i b a) = true := by
  simp only [Bool.or_eq_true, lexLe_iff]
  rcases Std.lt_trichotomy (k a) (k b) with h | h | h
  · exact .inl (.inl h)
  · rcases String.le_total (i a) (i b) with h' | h'
    · exact .inl (.inr ⟨h, h'⟩)
    · exact .inr (.inr ⟨h.symm, h'⟩)
  · exact .inr (.inl h)

theorem lexLe_trans (a b c : α) : lexLe k i a b = true → lexLe k i b c = true → lexLe k i a c = true := by
  simp only [lexLe_iff]
  rintro (h | ⟨h, h'⟩) (h2 | ⟨h2, h2'⟩)
  · exact .inl (Std.lt_trans h h2)
  · exact .inl (h2 ▸ h)
  · exact .inl (h ▸ h2)
  · exact .inr ⟨h.trans h2, String.le_trans h' h2'⟩

theorem lexLe_antisymm (a b : α) : lexLe k i a b = true → lexLe k i b a = true → k a = k b ∧ i a = i b := by
  simp only [lexLe_iff]
  rintro (h | ⟨h, h'⟩) (h2 | ⟨h2, h2'⟩)
  · exact absurd (Std.lt_trans h h2) Std.lt_irrefl
  · exact absurd (h2 ▸ h) Std.lt_irrefl
  · exact absurd (h ▸ h2) Std.lt_irrefl
  · exact ⟨h, String.le_antisymm h' h2'⟩
end Lex

theorem claimLe_total (a b : Task) : (claimLe a b || claimLe b a) = true := lexLe_total Task.createdAt Task.id a b
theorem claimLe_trans (a b c : Task) : claimLe a b = true → claimLe b c = true → claimLe a c = true :=
  lexLe_trans Task.createdAt Task.id a b c
theorem claimLe_antisymm (a b : Task) : claimLe a b = true → claimLe b a = true → a.id = b.id :=
  fun h1 h2 => (lexLe_antisymm Task.createdAt Task.id a b h1 h2).2
theorem claimLe_refl (a : Task) : claimLe a a = true := by
  have := claimLe_total a a; simpa using this

theorem edgeLe_iff (a b : Id × Id) : edgeLe a b = true ↔ a.1 < b.1 ∨ (a.1 = b.1 ∧ a.2 ≤ b.2) := lexLe_iff Prod.fst Prod.snd a b
theorem edgeLe_total (a b : Id × Id) : (edgeLe a b || edgeLe b a) = true := lexLe_total Prod.fst Prod.snd a b
theorem edgeLe_trans (a b c : Id × Id) : edgeLe a b = true → edgeLe b c = true → edgeLe a c = true :=
  lexLe_trans Prod.fst Prod.snd a b c
theorem edgeLe_antisymm (a b : Id × Id) : edgeLe a b = true → edgeLe b a = true → a = b :=
  fun h1 h2 => Prod.ext_iff.2 (lexLe_antisymm Prod.fst Prod.snd a b h1 h2)

theorem taskIdLe_total (a b : Task) : (taskIdLe a b || taskIdLe b a) = true := strLe_total _ _
theorem taskIdLe_trans (a b c : Task) : taskIdLe a b = true → taskIdLe b c = true → taskIdLe a c = true :=
  strLe_trans _ _ _

theorem mem_depsOf {g : Graph} {a d : Id} : d ∈ g.depsOf a ↔ (a, d) ∈ g.deps := by
  simp [Graph.depsOf]

theorem mem_rdepsOf {g : Graph} {a d : Id} : a ∈ g.rdepsOf d ↔ (a, d) ∈ g.deps := by
  simp [Graph.rdepsOf]

/-- done or canceled, in the three spellings the statements use: the model's test `St.closed`, the specification's `closedSt`
    (`ReadySpec`), and `s = .done ∨ s = .canceled` written out (the prune policy, C09), to which `closedSt s` unfolds (`exact` passes
    between the last two, `rw`/`simp` do not without `closedSt` among the lemmas) -/
theorem St.closed_iff (s : St) : s.closed = true ↔ closedSt s := by
  cases s <;> simp [closedSt, St.closed]

theorem eq_of_id_eq {l : List Task} (hnd : (l.map (·.id)).Nodup) {a b : Task}
    (ha : a ∈ l) (hb : b ∈ l) (h : a.id = b.id) : a = b :=
  inj_of_nodup_map (·.id) hnd ha hb h

theorem nodup_of_ids {tasks : List Task} (hnd : (tasks.map (·.id)).Nodup) : tasks.Nodup :=
  hnd.of_map _ fun _ _ hne heq => hne (heq ▸ rfl)

theorem find?_id_iff {l : List Task} (hn : (l.map (·.id)).Nodup) {d : Id} {o : Task} :
    l.find? (·.id == d) = some o ↔ o ∈ l ∧ o.id = d :=
  find?_key_iff (f := (·.id)) hn d o

theorem Graph.forall_id_iff {g : Graph} (hn : (g.tasks.map (·.id)).Nodup) (d : Id) (P : Task → Prop) :
    (∀ o ∈ g.tasks, o.id = d → P o) ↔ ∀ o, g.find? d = some o → P o := by
  simp only [Graph.find?, find?_id_iff hn, and_imp]

theorem Graph.mem_of_find? {g : Graph} {id : Id} {t : Task} (h : g.find? id = some t) : t ∈ g.tasks ∧ t.id = id :=
  ⟨List.mem_of_find?_eq_some h, by simpa using List.find?_some h⟩

theorem Graph.find?_iff {g : Graph} (hwf : WF g) {d : Id} {o : Task} :
    g.find? d = some o ↔ o ∈ g.tasks ∧ o.id = d := find?_id_iff hwf.nodup

theorem Graph.find?_of_mem {g : Graph} (hwf : WF g) {t : Task} (ht : t ∈ g.tasks) : g.find? t.id = some t :=
  (Graph.find?_iff hwf).2 ⟨ht, rfl⟩

theorem Graph.has_iff {g : Graph} {id : Id} : g.has id = true ↔ ∃ t ∈ g.tasks, t.id = id := by
  simp [Graph.has, List.any_eq_true]

theorem Graph.has_false_iff {g : Graph} {id : Id} : g.has id = false ↔ ∀ t ∈ g.tasks, t.id ≠ id := by
  simp [Graph.has]

theorem Graph.find?_eq_none_iff {g : Graph} {id : Id} : g.find? id = none ↔ g.has id = false := by
  simp [Graph.find?, Graph.has]

theorem Graph.tombed_iff (g : Graph) (id : Id) : g.tombed id = true ↔ id ∈ g.tombs := by
  simp [Graph.tombed]

theorem Graph.tombed_false_iff {g : Graph} {id : Id} : g.tombed id = false ↔ id ∉ g.tombs := by
  simp [Graph.tombed]

theorem Graph.map_has (g : Graph) (f : Task → Task) (hf : ∀ k, (f k).id = k.id) (i : Id) :
    ({ g with tasks := g.tasks.map f } : Graph).has i = g.has i := by
  simp [Graph.has, List.any_map, Function.comp_def, hf]

theorem Graph.map_find? (g : Graph) (f : Task → Task) (hf : ∀ k, (f k).id = k.id) (i : Id) :
    ({ g with tasks := g.tasks.map f } : Graph).find? i = (g.find? i).map f := by
  simp [Graph.find?, List.find?_map, Function.comp_def, hf]

theorem Graph.map_eq_self (g : Graph) (f : Task → Task) (h : ∀ t ∈ g.tasks, f t = t) : ({ g with tasks := g.tasks.map f } : Graph) = g :=
  congrArg (Graph.mk · g.deps g.tombs) ((List.map_congr_left h).trans (List.map_id _))

theorem Graph.update_keeps_id {id : Id} {f : Task → Task} (hf : ∀ k, (f k).id = k.id) (k : Task) :
    (if k.id == id then f k else k).id = k.id := by
  split
  · exact hf k
  · rfl

theorem Graph.update_has (g : Graph) (id i : Id) (f : Task → Task) (hf : ∀ k, (f k).id = k.id) :
    (g.update id f).has i = g.has i :=
  Graph.map_has g _ (Graph.update_keeps_id hf) i

theorem Graph.update_find? (g : Graph) (id i : Id) (f : Task → Task) (hf : ∀ k, (f k).id = k.id) :
    (g.update id f).find? i = (g.find? i).map fun k => if k.id == id then f k else k :=
  Graph.map_find? g _ (Graph.update_keeps_id hf) i

theorem Graph.update_find?_self {g : Graph} {id : Id} {t : Task} (h : g.find? id = some t) {f : Task → Task}
    (hf : ∀ k, (f k).id = k.id) : (g.update id f).find? id = some (f t) := by
  rw [Graph.update_find? g id id f hf, h]
  simp [(Graph.mem_of_find? h).2]

theorem Graph.update_tombs (g : Graph) (id : Id) (f : Task → Task) : (g.update id f).tombs = g.tombs := rfl
theorem Graph.update_deps (g : Graph) (id : Id) (f : Task → Task) : (g.update id f).deps = g.deps := rfl
theorem Graph.update_tombed (g : Graph) (id i : Id) (f : Task → Task) : (g.update id f).tombed i = g.tombed i := rfl

theorem mem_update_tasks {g : Graph} {id : Id} {f : Task → Task} {x : Task} :
    x ∈ (g.update id f).tasks ↔ ∃ y ∈ g.tasks, x = if y.id == id then f y else y := by
  simp only [Graph.update, List.mem_map, eq_comm]

theorem Graph.forall_mem_update {g : Graph} {P : Task → Prop} (hg : ∀ t ∈ g.tasks, P t) (id : Id) {f : Task → Task}
    (hf : ∀ k, P k → P (f k)) : ∀ t ∈ (g.update id f).tasks, P t := by
  intro t ht
  obtain ⟨k, hk, rfl⟩ := mem_update_tasks.1 ht
  split
  · exact hf k (hg k hk)
  · exact hg k hk

theorem Graph.update_update {g : Graph} {id : Id} {f h : Task → Task} (hf : ∀ k, (f k).id = k.id) :
    (g.update id f).update id h = g.update id (h ∘ f) := by
  simp only [Graph.update, List.map_map]
  congr 1
  refine List.map_congr_left fun t _ => ?_
  simp only [Function.comp, Graph.update_keeps_id hf]
  split <;> rfl

theorem Graph.update_absent (g : Graph) (id : Id) (f : Task → Task) (h : g.has id = false) : g.update id f = g :=
  Graph.map_eq_self g _ fun t ht => if_neg (by simpa using Graph.has_false_iff.1 h t ht)

theorem Graph.update_snoc (g : Graph) (k : Task) (f : Task → Task) (h : g.has k.id = false) :
    ({ g with tasks := g.tasks ++ [k] } : Graph).update k.id f = { g with tasks := g.tasks ++ [f k] } := by
  have := congrArg Graph.tasks (Graph.update_absent g k.id f h)
  simp only [Graph.update, List.map_append, List.map_cons, List.map_nil, beq_self_eq_true, if_true] at this ⊢
  rw [this]

theorem mem_update_cases {g : Graph} {id : Id} {t : Task} {f : Task → Task} {x : Task} (hwf : WF g)
    (hfind : g.find? id = some t) (hx : x ∈ (g.update id f).tasks) : (x ∈ g.tasks ∧ x.id ≠ id) ∨ x = f t := by
  obtain ⟨y, hy, rfl⟩ := mem_update_tasks.1 hx
  by_cases hid : y.id = id
  · subst hid
    cases hfind.symm.trans (Graph.find?_of_mem hwf hy)
    exact .inr (if_pos (beq_self_eq_true _))
  · exact .inl (by simp [hid, hy])

theorem update_lift {g : Graph} {id : Id} {f : Task → Task} (hfid : ∀ k, (f k).id = k.id)
    (hfE : ∀ k, (f k).isEpic = k.isEpic) {e : Task} (he : e ∈ g.tasks) :
    ∃ e' ∈ (g.update id f).tasks, e'.id = e.id ∧ e'.isEpic = e.isEpic := by
  refine ⟨if e.id == id then f e else e, mem_update_tasks.2 ⟨e, he, rfl⟩, ?_, ?_⟩ <;> split <;> simp [hfid, hfE]

theorem maxTime_eq (a b : Time) : maxTime a b = max a b := by
  fun_cases maxTime a b <;> lia

theorem maxTime_zero (a : Time) : maxTime a 0 = a := by simp [maxTime]

theorem maxTime_le_iff (a b n : Nat) : maxTime a b ≤ n ↔ a ≤ n ∧ b ≤ n := by
  rw [maxTime_eq]; exact Nat.max_le

theorem maxTime_eq_right {a now : Nat} (h : a ≤ now) : maxTime a now = now := by
  rw [maxTime_eq]; exact Nat.max_eq_right h

theorem foldl_maxTime_le_iff (l : List Time) (a n : Time) : l.foldl maxTime a ≤ n ↔ a ≤ n ∧ ∀ x ∈ l, x ≤ n := by
  induction l generalizing a with
  | nil => simp
  | cons y ys ih => simp only [List.foldl_cons, ih, maxTime_le_iff, List.forall_mem_cons, and_assoc]

theorem maxTimes_le_iff (l : List Time) (n : Time) : maxTimes l ≤ n ↔ ∀ x ∈ l, x ≤ n := by
  simp [maxTimes, foldl_maxTime_le_iff]

theorem le_maxTimes {l : List Time} {x : Time} (h : x ∈ l) : x ≤ maxTimes l :=
  (maxTimes_le_iff l _).1 (Nat.le_refl _) x h

theorem eq_of_le_iff {a b : Nat} (h : ∀ n, a ≤ n ↔ b ≤ n) : a = b :=
  Nat.le_antisymm ((h b).2 (Nat.le_refl b)) ((h a).1 (Nat.le_refl a))

theorem maxTimes_eq {l : List Time} {now : Time} (hm : now ∈ l) (hle : ∀ x ∈ l, x ≤ now) : maxTimes l = now :=
  Nat.le_antisymm ((maxTimes_le_iff _ _).2 hle) (le_maxTimes hm)

theorem maxTimes_congr {l l' : List Time} (h : ∀ x, x ∈ l ↔ x ∈ l') : maxTimes l = maxTimes l' :=
  eq_of_le_iff fun n => by simp only [maxTimes_le_iff, h]

theorem maxTimes_nil : maxTimes [] = 0 := rfl

theorem maxTimes_cons (x : Time) (l : List Time) : maxTimes (x :: l) = max x (maxTimes l) :=
  eq_of_le_iff fun n => by rw [maxTimes_le_iff, List.forall_mem_cons, Nat.max_le, maxTimes_le_iff]

theorem maxTimes_append (l l' : List Time) : maxTimes (l ++ l') = max (maxTimes l) (maxTimes l') :=
  eq_of_le_iff fun n => by rw [maxTimes_le_iff, List.forall_mem_append, Nat.max_le, maxTimes_le_iff, maxTimes_le_iff]

theorem maxTimes_reverse (l : List Time) : maxTimes l.reverse = maxTimes l :=
  maxTimes_congr fun _ => List.mem_reverse

theorem foldl_maxTime (a : Time) (l : List Time) : l.foldl maxTime a = maxTimes (a :: l) := by
  rw [maxTimes, List.foldl_cons, maxTime_eq_right (Nat.zero_le a)]

end Ergo
