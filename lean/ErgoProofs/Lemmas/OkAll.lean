/-
  What a successful run of an `Except` program returned, read off the program from the outside in: a refused branch is `.error`, a
  returned value `.ok`, a test `.ite`, a stage of a `do` block `.bind`, a mapped result `.map`.  A lemma `OkAll Q x` applies to a
  hypothesis `x = .ok a` as it stands.
-/
namespace Ergo

-- the one global instance outside the witness modules: `decide` on equations between `Except` values (C15's counter-example, the witnesses)
deriving instance DecidableEq for Except

def OkAll {ε α} (Q : α → Prop) (x : Except ε α) : Prop := ∀ a, x = .ok a → Q a

namespace OkAll
variable {ε α β : Type} {Q : α → Prop}

theorem error {e : ε} : OkAll Q (.error e) := fun _ h => nomatch h

theorem ok {a : α} (h : Q a) : OkAll Q (.ok a : Except ε α) := fun _ h' => by cases h'; exact h

theorem ite {x y : Except ε α} {c : Prop} [Decidable c] (h1 : c → OkAll Q x) (h2 : ¬c → OkAll Q y) :
    OkAll Q (if c then x else y) := by
  split
  · exact h1 ‹_›
  · exact h2 ‹_›

theorem bind {x : Except ε β} {f : β → Except ε α} (hf : ∀ b, x = .ok b → OkAll Q (f b)) : OkAll Q (x >>= f) := by
  cases x with
  | error e => exact .error
  | ok b => exact hf b rfl

theorem map {x : Except ε β} {f : β → α} (hf : ∀ b, x = .ok b → Q (f b)) : OkAll Q (x.map f) := by
  cases x with
  | error e => exact .error
  | ok b => exact .ok (hf b rfl)

end OkAll

theorem map_ok {α β ε : Type} {f : α → β} {x : Except ε α} {y : β} (h : x.map f = .ok y) : ∃ a, x = .ok a ∧ f a = y :=
  OkAll.map (Q := fun y => ∃ a, x = .ok a ∧ f a = y) (fun a ha => ⟨a, ha, rfl⟩) y h

end Ergo
