/-
  Every event a command writes is `Wf` (`runCmd_wf`): outside `compact` it carries one of the command's clock readings (`EnvT`; `plan`
  stamps its i-th task with the (i+1)-th) and a state that came through `St.ofString` or is a literal; `compact` writes what a graph
  replayed from `Wf` events holds (`replay_wf`, `compactEvents_wf`).
-/
import ErgoProofs.Lemmas.CodecThm
import ErgoProofs.Lemmas.Sections
import ErgoProofs.Lemmas.ReplayInv
import ErgoProofs.Lemmas.CompactTask
open Ergo Ergo.Storage Ergo.Codec
namespace Ergo.Codec

theorem stOk_lit : StOk .todo ∧ StOk .doing ∧ StOk .done ∧ StOk .blocked ∧ StOk .canceled ∧ StOk .error := by
  unfold StOk; decide +kernel

theorem ofString_other (s : String) (h1 : s ≠ "todo") (h2 : s ≠ "doing") (h3 : s ≠ "done") (h4 : s ≠ "blocked") (h5 : s ≠ "canceled")
    (h6 : s ≠ "error") : St.ofString s = .other s := by
  simp only [St.ofString]

theorem stOk_ofString (s : String) : StOk (St.ofString s) := by
  obtain ⟨h1, h2, h3, h4, h5, h6⟩ := stOk_lit
  fun_cases St.ofString s with
  -- `s` is none of the six names: it becomes `.other s`, whose text is `s`
  | case7 s h1 h2 h3 h4 h5 h6 => exact ofString_other s h1 h2 h3 h4 h5 h6
  | _ => assumption

theorem stOk_doing : StOk .doing := rfl
theorem stOk_todo : StOk .todo := rfl

/-- close a goal `AllWf evs` from `h : <section code> = .ok evs`: split the code, discard the error branches, read off the events -/
macro "wf_cases" h:ident hn:ident : tactic => `(tactic| (
  repeat' ((try simp only at $h:ident); split at $h:ident)
  all_goals first
    | (cases $h:ident; done)
    | (simp only [Except.ok.injEq, pure, Except.pure] at $h:ident; subst $h:ident
       simp [AllWf, Wf, TimeOk, $hn:ident, stOk_ofString, stOk_doing, stOk_todo])))

theorem _root_.Ergo.SetEv.wf {t : Task} {u : Updates} {now : Time} {e : Event} (h : SetEv t u now e) (hn : now < maxT) : Wf e := by
  cases h with
  | unclaim => trivial
  | state s => exact ⟨stOk_ofString s, hn⟩
  | _ => exact hn

theorem updateEvents_wf {g : Graph} {t : Task} {r : SetReq} {agent : String} {po : PathOutcome} {now : Time} {evs : List Event}
    (hn : now < maxT) (h : updateEvents g t r agent po now = .ok evs) : AllWf evs :=
  fun e he => (updateEvents_mem h e he).wf hn

theorem linkEvents_wf (g : Graph) (un : Bool) (edges : List (Id × Id)) : OkAll AllWf (linkEvents g un edges) := by
  induction edges generalizing g with
  | nil => exact .ok allWf_nil
  | cons e rest ih =>
    unfold linkEvents
    exact .bind fun _ _ => .bind fun evs h => .ok (allWf_cons (by cases un <;> trivial) (ih _ evs h))

structure TaskWf (t : Task) : Prop where
  st : StOk t.st
  cSt : StOk t.cSt
  createdAt : t.createdAt < maxT
  updatedAt : t.updatedAt < maxT
  lastState : t.lastState < maxT
  lastClaim : t.lastClaim < maxT
  lastTitle : t.lastTitle < maxT
  lastBody : t.lastBody < maxT
  lastEpic : t.lastEpic < maxT
  results : ∀ r ∈ t.results, r.time < maxT

def GraphWf (g : Graph) : Prop := ∀ t ∈ g.tasks, TaskWf t

theorem maxT_pos : 0 < maxT := by decide

theorem maxTime_lt {a b : Time} (ha : a < maxT) (hb : b < maxT) : maxTime a b < maxT := by
  unfold maxTime; split <;> assumption

theorem stepTask_wf {k : Task} {e : Event} (hk : TaskWf k) (he : Wf e) : TaskWf (stepTask k e) := by
  unfold stepTask
  split
  · exact { hk with st := he.1, updatedAt := maxTime_lt hk.updatedAt he.2, lastState := he.2 }
  · exact { hk with lastClaim := he }
  · exact { hk with }
  · exact { hk with updatedAt := maxTime_lt hk.updatedAt he, lastTitle := he }
  · exact { hk with updatedAt := maxTime_lt hk.updatedAt he, lastBody := he }
  · exact { hk with updatedAt := maxTime_lt hk.updatedAt he, lastEpic := he }
  · exact { hk with updatedAt := maxTime_lt hk.updatedAt he,
                    results := fun r hr => (List.mem_cons.1 hr).elim (· ▸ he) (hk.results r) }
  · exact hk

theorem applyEvent_wf {g : Graph} {e : Event} {g' : Graph} (hg : GraphWf g) (he : Wf e) (h : applyEvent g e = .ok g') : GraphWf g' := by
  cases applyEvent_cases _ h with
  | skip | link | unlink => exact hg
  | update id => exact Graph.forall_mem_update hg id fun k hk => stepTask_wf hk he
  | newItem hev =>
    subst hev
    intro t ht
    rcases List.mem_append.1 ht with ht | ht
    · exact hg t ht
    · rw [List.mem_singleton.1 ht]
      exact ⟨he.1, he.1, he.2, he.2, maxT_pos, maxT_pos, maxT_pos, maxT_pos, maxT_pos, fun _ hr => nomatch hr⟩
  | tombstone id => exact fun k hk => hg k (List.mem_filter.1 hk).1

theorem migrateTask_wf {k : Task} (h : TaskWf k) : TaskWf (migrateTask k) := by
  unfold migrateTask; split
  · -- the pair as a variable: left in place, every field's type check evaluates `deriveTitleAndBody`
    generalize Text.deriveTitleAndBody k.body = p
    exact { h with }
  · exact h

theorem replay_wf (log : List Event) (hl : AllWf log) (g : Graph) (h : replay log = .ok g) : GraphWf g := by
  obtain ⟨g1, h1, rfl⟩ := replay_ok _ h
  have hg1 : GraphWf g1 :=
    foldlM_preserves GraphWf (fun _ e he _ hg h => applyEvent_wf hg (hl e he) h) (by intro t ht; cases ht) h1
  intro t ht
  obtain ⟨k, hk, rfl⟩ := List.mem_map.1 ht
  exact migrateTask_wf (hg1 k hk)

theorem pickTime_lt {a b : Time} (ha : a < maxT) (hb : b < maxT) : pickTime a b < maxT := by
  unfold pickTime; split <;> assumption

theorem mem_ite_single {c : Prop} [Decidable c] {x e : Event} (h : e ∈ (if c then [x] else [])) : e = x := by
  split at h
  · simpa using h
  · cases h

theorem compactTask_wf (t : Task) (ht : TaskWf t) : AllWf (compactTask t) := by
  have hc : StOk (cStOf t) := by unfold cStOf; split; exact ht.cSt; exact ht.st
  rw [compactTask_eq]
  refine allWf_cons ⟨hc, ht.createdAt⟩ fun e he => ?_
  simp only [updEvents, List.mem_append] at he
  rcases he with (((((he | he) | he) | he) | he) | he)
  · rw [mem_ite_single he]; exact pickTime_lt ht.lastTitle ht.updatedAt
  · rw [mem_ite_single he]; exact pickTime_lt ht.lastBody ht.updatedAt
  · rw [mem_ite_single he]; exact pickTime_lt ht.lastEpic ht.updatedAt
  · rw [mem_ite_single he]; exact ⟨ht.st, pickTime_lt ht.lastState ht.updatedAt⟩
  · rw [mem_ite_single he]; exact pickTime_lt ht.lastClaim ht.updatedAt
  · simp only [List.mem_map, List.mem_reverse] at he
    obtain ⟨r, hr, rfl⟩ := he
    exact ht.results r hr

theorem compactEvents_wf (g : Graph) (hg : GraphWf g) : AllWf (compactEvents g) := by
  intro e he
  simp only [compactEvents, List.mem_append, List.mem_flatten, List.mem_map] at he
  rcases he with ⟨l, ⟨t, ht, rfl⟩, hel⟩ | ⟨d, _, rfl⟩
  · exact compactTask_wf t (hg t (List.mem_mergeSort.1 ht)) e hel
  · trivial

/-- the clock readings a command gets are before year 10000 -/
def EnvT (env : Env) : Prop := ∀ t ∈ env.times, t < maxT

theorem envT_now (env : Env) (h : EnvT env) : env.now < maxT := by
  unfold Env.now
  cases ht : env.times with
  | nil => exact maxT_pos
  | cons a r => exact h a (by rw [ht]; simp)

theorem envT_getD (env : Env) (h : EnvT env) (i : Nat) : (env.times[i]?).getD env.now < maxT := by
  cases hg : env.times[i]? with
  | none => exact envT_now env h
  | some t => exact h t (List.mem_of_getElem? hg)

def _root_.Ergo.Write.events : Write → List Event
  | .append evs => evs
  | .replace evs => evs

theorem secPlan_wf (log : List Event) (hl : AllWf log) (g : Graph) (p : PlanInput) (env : Env) (he : EnvT env) :
    OkAll (fun r => AllWf r.1.events) (secPlan log g p env) := by
  unfold secPlan
  dsimp only
  split
  · exact .error
  · exact .error
  · split
    · exact .error
    · refine .ok (allWf_append (allWf_append (allWf_append hl (allWf_single ⟨rfl, envT_now env he⟩)) ?_) ?_)
      · intro e hm
        obtain ⟨⟨⟨t, id⟩, i⟩, _, rfl⟩ := List.mem_map.1 hm
        exact ⟨rfl, envT_getD env he _⟩
      · intro e hm
        obtain ⟨d, _, rfl⟩ := List.mem_map.1 hm
        trivial

theorem applyWrite_wf (log : List Event) (hl : AllWf log) (w : Write) (hw : AllWf w.events) : AllWf (applyWrite log w) := by
  cases w <;> simp only [applyWrite, Write.events] at hw ⊢
  · exact allWf_append hl hw
  · exact hw

/-- `hl` is needed because `compact` and `plan` write the log again -/
theorem runSec_events_wf (log : List Event) (hl : AllWf log) (env : Env) (he : EnvT env) (s : Sec) (w : Write) (o : SecOut)
    (h : runSec log env s = .ok (w, o)) : AllWf w.events := by
  have hn := envT_now env he
  obtain ⟨g, hr, hs⟩ := runSec_ok _ h
  cases s with
  | create isEpic epicId title body follow =>
    obtain ⟨i, hc, -⟩ := hs
    obtain ⟨-, -, more, rfl, hm⟩ := secCreate_ok _ hc
    exact allWf_cons ⟨rfl, hn⟩ (updateEvents_wf hn hm)
  | update id r =>
    obtain ⟨-, t, evs, -, hu, rfl⟩ := secUpdate_ok _ hs
    exact updateEvents_wf hn hu
  | links un edges =>
    obtain ⟨evs, hl', rfl⟩ := map_ok hs
    exact linkEvents_wf g un edges evs hl'
  | claimOldest epic =>
    obtain ⟨t, hc, -⟩ := hs
    obtain ⟨_, -, rfl⟩ := secClaimOldest_ok _ hc
    exact allWf_cons hn (allWf_single ⟨rfl, hn⟩)
  | prune apply =>
    rw [hs.1]
    unfold secPrune
    split
    · intro e he; obtain ⟨i, _, rfl⟩ := List.mem_map.1 he; exact hn
    · exact allWf_nil
  | compact => exact hs ▸ compactEvents_wf g (replay_wf log hl g hr)
  | plan p => obtain ⟨po, hc, -⟩ := hs; exact secPlan_wf log hl g p env he _ hc

theorem runSec_wf (log : List Event) (hl : AllWf log) (env : Env) (he : EnvT env) (s : Sec) (w : Write) (o : SecOut)
    (h : runSec log env s = .ok (w, o)) : AllWf (applyWrite log w) :=
  applyWrite_wf log hl w (runSec_events_wf log hl env he s w o h)

theorem runCmd_wf (log : List Event) (hl : AllWf log) (env : Env) (he : EnvT env) (req : Request) : AllWf (runCmd log env req).log := by
  rcases runCmd_cases log env req with h | ⟨sec, w, o, -, hr, hres⟩
  · rw [h.1]; exact hl
  · rw [hres]; exact runSec_wf log hl env he sec w o hr

end Ergo.Codec
