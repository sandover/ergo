/-
  What the shape predicates of ErgoModel.Program guarantee.  `writerOK_parts`, `busyOK_parts`, `readerOK_parts` read them as propositions:
  under `writerOK` everything that changes the log lies between the successful flock and the unlock, after a read of the log, with at
  most one write to the live file (`bodyOK_parts`).
-/
import ErgoModel.Program
import ErgoProofs.Lemmas.ListAux
namespace Ergo.Program

theorem span_spec {α} {p : α → Bool} {l pre r : List α} (h : l.span p = (pre, r)) :
    l = pre ++ r ∧ (∀ c ∈ pre, p c = true) ∧ (∀ x ∈ r.head?, p x = false) := by
  rw [span_eq] at h
  cases h
  refine ⟨List.takeWhile_append_dropWhile.symm, List.all_eq_true.mp List.all_takeWhile, fun x hx => ?_⟩
  have := List.head?_dropWhile_not p l
  rw [hx] at this; exact this

theorem span_append {α} {p : α → Bool} {pre post : List α} {c : α} (hpre : ∀ x ∈ pre, p x = true) (hc : p c = false) :
    (pre ++ c :: post).span p = (pre, c :: post) := by
  have hc' : ¬ p c = true := by rw [hc]; nofun
  rw [span_eq, List.takeWhile_append_of_pos hpre, List.dropWhile_append_of_pos hpre, List.takeWhile_cons_of_neg hc',
    List.dropWhile_cons_of_neg hc', List.append_nil]

theorem split_decompose (p : List Call) (s : Split) (h : split p = some s) :
    p = s.before ++ Call.flockEx true :: s.inside ++ Call.flockUn :: s.after ∧
    Call.flockEx true ∉ s.before ∧ Call.flockUn ∉ s.inside := by
  revert h
  fun_cases split p with
  | case1 pre x rest h1 ins y post h2 =>
    rintro ⟨⟩
    obtain ⟨e1, a1, b1⟩ := span_spec h1
    obtain ⟨e2, a2, b2⟩ := span_spec h2
    cases bne_eq_false_iff_eq.mp (b1 x rfl)
    cases bne_eq_false_iff_eq.mp (b2 y rfl)
    refine ⟨by rw [e1, e2]; simp, fun hm => ?_, fun hm => ?_⟩
    · simpa using a1 _ hm
    · simpa using a2 _ hm
  | _ => nofun

/-- the conjuncts of `writerOK` as propositions, with the split exposed -/
theorem writerOK_parts (p : List Call) (h : writerOK p = true) :
    (∀ c ∈ p, mutatesLock c = false ∧ undisciplined c = false) ∧
    ∃ s, split p = some s ∧
      (∀ c ∈ s.before, mutatesLog c = false ∧ readsLog c = false ∧ c ≠ .flockUn ∧ isLock c = false) ∧
      bodyOK s.inside = true ∧
      (∀ c ∈ s.after, mutatesLog c = false ∧ isLock c = false ∧ c ≠ .flockUn ∧ c ≠ .write .tmp) := by
  unfold writerOK at h
  split at h
  next => simp at h
  next s hs =>
    simp only [breaksDiscipline, Bool.and_eq_true, Bool.not_eq_true', List.any_eq_false, Bool.not_eq_true, Bool.or_eq_false_iff,
      beq_eq_false_iff_ne, and_assoc] at h
    exact ⟨h.1, s, hs, h.2⟩

theorem busyOK_parts (p : List Call) (h : busyOK p = true) :
    (∀ c ∈ p, mutatesLock c = false ∧ undisciplined c = false) ∧ .flockEx false ∈ p ∧ .flockEx true ∉ p ∧
    ∀ c ∈ p, mutatesLog c = false ∧ readsLog c = false ∧ c ≠ .write .tmp ∧ c ≠ .flockUn := by
  simpa only [busyOK, breaksDiscipline, Bool.and_eq_true, Bool.not_eq_true', List.any_eq_false, Bool.not_eq_true, Bool.or_eq_false_iff,
    beq_eq_false_iff_ne, and_assoc, List.contains_eq_mem, decide_eq_true_eq, decide_eq_false_iff_not] using h

theorem readerOK_parts (p : List Call) (h : readerOK p = true) :
    (∀ c ∈ p, mutatesLock c = false ∧ undisciplined c = false) ∧ (∀ c ∈ p, isLock c = false) ∧ .flockUn ∉ p ∧
    (p.filter (· == .openRO .log)).length ≤ 1 ∧ .openAppend ∉ p ∧ .openTmp ∉ p ∧
    ∀ c ∈ p, mutatesLog c = false ∧ c ≠ .write .tmp ∧ c ≠ .write .lock := by
  simpa only [readerOK, breaksDiscipline, Bool.and_eq_true, Bool.not_eq_true', List.any_eq_false, Bool.not_eq_true, Bool.or_eq_false_iff,
    beq_eq_false_iff_ne, and_assoc, List.contains_eq_mem, decide_eq_true_eq, decide_eq_false_iff_not] using h

theorem bodyOK_parts (ins : List Call) (h : bodyOK ins = true) :
    logWrites ins ≤ 1 ∧ Call.truncate .log ∉ ins ∧ Call.unlink .log ∉ ins ∧
    (∀ pre c post, ins = pre ++ c :: post → mutatesLog c = true → (∀ x ∈ pre, mutatesLog x = false) → ∃ r ∈ pre, readsLog r = true) := by
  unfold bodyOK at h
  simp only [Bool.and_eq_true] at h
  obtain ⟨⟨⟨⟨⟨⟨h1, h2⟩, h3⟩, h4⟩, _⟩, _⟩, _⟩ := h
  refine ⟨by simpa using h2, by simpa using h3, by simpa using h4, fun pre c post e hc hpre => ?_⟩
  rw [e, span_append (fun x hx => by rw [hpre x hx]; rfl) (by rw [hc]; rfl)] at h1
  exact List.any_eq_true.mp h1

theorem bodyOK_mut_read (ins : List Call) (h : bodyOK ins = true) (hm : ins.any mutatesLog = true) :
    ins.any readsLog = true := by
  -- the first call that changes the log
  obtain ⟨c, hc⟩ := Option.isSome_iff_exists.1 (List.find?_isSome.2 (List.any_eq_true.1 hm))
  obtain ⟨hmc, pre, post, e, hpre⟩ := List.find?_eq_some_iff_append.1 hc
  obtain ⟨r, hr1, hr2⟩ := (bodyOK_parts ins h).2.2.2 pre c post e hmc (by simpa using hpre)
  exact List.any_eq_true.mpr ⟨r, by rw [e]; simp [hr1], hr2⟩

theorem discipline_kept (p : List Call) (h : writerOK p = true ∨ busyOK p = true ∨ readerOK p = true) :
    ∀ c ∈ p, mutatesLock c = false ∧ undisciplined c = false := by
  rcases h with h | h | h
  · exact (writerOK_parts p h).1
  · exact (busyOK_parts p h).1
  · exact (readerOK_parts p h).1

/-- the programs traced on the pinned tree (strace, DESIGN §3) are accepted -/
example : writerOK [.openRO .lock, .flockEx true, .openRO .log, .read .log, .close .log, .openAppend, .read .log, .write .log, .close .log,
                    .openRO .log, .read .log, .close .log, .flockUn, .close .lock] = true := by decide
example : writerOK [.openRO .lock, .flockEx true, .openRO .log, .read .log, .close .log, .openTmp, .write .tmp, .fsync .tmp, .close .tmp, .rename,
                    .openRO .dir, .fsync .dir, .close .dir, .flockUn, .close .lock] = true := by decide +kernel
example : writerOK [.openRO .lock, .flockEx true, .openRO .log, .read .log, .close .log, .openAppend, .read .log, .openTmp, .write .tmp, .fsync .tmp, .close .tmp,
                    .rename, .openRO .dir, .fsync .dir, .close .dir, .close .log, .openAppend, .write .log, .close .log, .flockUn, .close .lock] = true := by decide +kernel
example : busyOK [.openRO .lock, .flockEx false, .close .lock] = true := by decide
example : readerOK [.openRO .log, .read .log, .read .log, .close .log] = true := by decide
-- rejected: two writes to the log in one section; the log read before the lock and not again inside it; the log truncated in place
example : writerOK [.openRO .lock, .flockEx true, .openRO .log, .read .log, .close .log, .openAppend, .write .log, .write .log, .close .log, .flockUn, .close .lock] = false := by decide
example : writerOK [.openRO .log, .read .log, .close .log, .openRO .lock, .flockEx true, .openTmp, .write .tmp, .fsync .tmp, .close .tmp, .rename, .flockUn, .close .lock] = false := by decide
example : writerOK [.openRO .lock, .flockEx true, .openRO .log, .read .log, .close .log, .openAppend, .truncate .log, .write .log, .close .log, .flockUn, .close .lock] = false := by decide

end Ergo.Program
