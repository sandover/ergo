/-
  `reachable` (Go's `isReachable`) computes `Path` (`reachable_iff`): every id added ends a path, and each `closeStep` on a set not yet
  closed uses up one of the edges still `missing`, of which there are no more than the fuel.  Then `Acyclic` under adding and dropping
  edges, and `no_endless_walk`, which Progress.lean and RenderRowsKahn.lean share.
-/
import ErgoProofs.Spec
namespace Ergo

theorem Path.trans {E : List (Id × Id)} {a b c : Id} (h1 : Path E a b) (h2 : Path E b c) : Path E a c := by
  induction h1 with
  | refl _ => exact h2
  | step he _ ih => exact Path.step he (ih h2)

theorem Path.mono {E E' : List (Id × Id)} (hsub : ∀ e ∈ E, e ∈ E') {a b : Id} (h : Path E a b) : Path E' a b := by
  induction h with
  | refl _ => exact Path.refl _
  | step he _ ih => exact Path.step (hsub _ he) ih

private def Closed (E : List (Id × Id)) (s : List Id) : Prop := ∀ e ∈ E, e.1 ∈ s → e.2 ∈ s

private theorem closed_path {E : List (Id × Id)} {s : List Id} (h : Closed E s) {a b : Id}
    (ha : a ∈ s) (p : Path E a b) : b ∈ s := by
  induction p with
  | refl _ => exact ha
  | step he _ ih => exact ih (h _ he ha)

private theorem mem_closeStep {E : List (Id × Id)} {s : List Id} {x : Id} :
    x ∈ closeStep E s ↔ x ∈ s ∨ ∃ e ∈ E, e.1 ∈ s ∧ e.2 ∉ s ∧ e.2 = x := by
  simp only [closeStep, List.contains_eq_mem, List.mem_append, List.mem_eraseDups, List.mem_map, List.mem_filter, Bool.and_eq_true,
    decide_eq_true_eq, Bool.not_eq_eq_eq_not, Bool.not_true, decide_eq_false_iff_not, and_assoc]

private theorem subset_closure (E : List (Id × Id)) (n : Nat) (s : List Id) {x : Id} (h : x ∈ s) :
    x ∈ closure E n s := by
  induction n generalizing s with
  | zero => exact h
  | succ n ih => exact ih _ (mem_closeStep.2 (Or.inl h))

private theorem closure_sound (E : List (Id × Id)) (a : Id) (n : Nat) (s : List Id)
    (hs : ∀ x ∈ s, Path E a x) : ∀ x ∈ closure E n s, Path E a x := by
  induction n generalizing s with
  | zero => exact hs
  | succ n ih =>
    refine ih _ fun x hx => ?_
    rcases mem_closeStep.1 hx with h | ⟨e, he, h1, _, rfl⟩
    · exact hs x h
    · exact (hs _ h1).trans (.step he (.refl _))

private def missing (E : List (Id × Id)) (s : List Id) : List (Id × Id) := E.filter fun e => !s.contains e.2

private theorem missing_closeStep_lt {E : List (Id × Id)} {s : List Id} :
    Closed E s ∨ (missing E (closeStep E s)).length < (missing E s).length := by
  refine Classical.or_iff_not_imp_left.2 fun h => ?_
  obtain ⟨e, he, h1, h2⟩ : ∃ e ∈ E, e.1 ∈ s ∧ e.2 ∉ s := by
    simpa only [Closed, Classical.not_forall, exists_prop] using h
  -- what is missing afterwards is what was missing, filtered once more; that takes `e` away
  have : missing E (closeStep E s) = (missing E s).filter fun e => !(closeStep E s).contains e.2 := by
    rw [missing, missing, List.filter_filter, closeStep]
    refine List.filter_congr fun x _ => ?_
    rw [List.contains_append, Bool.not_or, Bool.and_right_comm, Bool.and_self]
  rw [this, List.length_filter_lt_length_iff_exists]
  exact ⟨e, by simp [missing, he, h2], by simpa using mem_closeStep.2 (.inr ⟨e, he, h1, h2, rfl⟩)⟩

private theorem closure_of_closed {E : List (Id × Id)} {s : List Id} (h : Closed E s) (n : Nat) :
    closure E n s = s := by
  have : closeStep E s = s := by
    have : (E.filter fun e => s.contains e.1 && !s.contains e.2) = [] :=
      List.filter_eq_nil_iff.2 fun e he => by simpa using h e he
    rw [closeStep, this]; simp
  induction n with
  | zero => rfl
  | succ n ih => rw [closure, this, ih]

private theorem closure_closed (E : List (Id × Id)) (n : Nat) (s : List Id) (h : (missing E s).length ≤ n) :
    Closed E (closure E n s) := by
  induction n generalizing s with
  | zero => exact (missing_closeStep_lt (s := s)).resolve_right (by omega)
  | succ n ih =>
    rcases missing_closeStep_lt (E := E) (s := s) with hc | hlt
    · rw [closure_of_closed hc]; exact hc
    · exact ih _ (by omega)

theorem reachable_iff (E : List (Id × Id)) (a b : Id) : reachable E a b = true ↔ Path E a b := by
  unfold reachable
  rw [List.contains_iff_mem]
  constructor
  · exact closure_sound E a _ [a] (fun x hx => List.mem_singleton.1 hx ▸ .refl _) b
  · exact closed_path (closure_closed E _ [a] (List.length_filter_le ..)) (subset_closure E _ [a] (List.mem_singleton.2 rfl))

theorem hasCycle_iff (g : Graph) (f t : Id) : hasCycle g f t = true ↔ f = t ∨ Path g.deps t f := by
  unfold hasCycle
  rw [Bool.or_eq_true, beq_iff_eq, reachable_iff]

private theorem path_add_edge {E : List (Id × Id)} {f t x y : Id} (p : Path (E ++ [(f, t)]) x y) :
    Path E x y ∨ (Path E x f ∧ Path E t y) := by
  induction p with
  | refl _ => exact .inl (.refl _)
  | step he _ ih =>
    rcases List.mem_append.1 he with he | he
    · rcases ih with ih | ⟨i1, i2⟩
      · exact .inl (.step he ih)
      · exact .inr ⟨.step he i1, i2⟩
    · obtain ⟨rfl, rfl⟩ := Prod.mk.inj (List.mem_singleton.1 he)
      rcases ih with ih | ⟨_, i2⟩
      · exact .inr ⟨.refl _, ih⟩
      · exact .inr ⟨.refl _, i2⟩

theorem acyclic_add_edge {E : List (Id × Id)} {f t : Id} (h : Acyclic E) (hp : ¬ Path E t f) :
    Acyclic (E ++ [(f, t)]) := by
  intro a b hab p
  rcases List.mem_append.1 hab with hab | hab
  · rcases path_add_edge p with p | ⟨p1, p2⟩
    · exact h a b hab p
    · exact hp (p2.trans (.step hab p1))
  · obtain ⟨rfl, rfl⟩ := Prod.mk.inj (List.mem_singleton.1 hab)
    rcases path_add_edge p with p | ⟨p1, _⟩
    · exact hp p
    · exact hp p1

theorem acyclic_add_edge_iff {E : List (Id × Id)} {f t : Id} (h : Acyclic E) :
    Acyclic (E ++ [(f, t)]) ↔ (f ≠ t ∧ ¬ Path E t f) := by
  refine ⟨fun hA => ?_, fun ⟨_, hp⟩ => acyclic_add_edge h hp⟩
  have hn := hA f t (List.mem_append_right _ (List.mem_singleton.2 rfl))
  exact ⟨fun heq => hn (heq ▸ .refl _), fun p => hn (p.mono fun e he => List.mem_append_left _ he)⟩

theorem acyclic_sub {E E' : List (Id × Id)} (h : Acyclic E) (hsub : ∀ e ∈ E', e ∈ E) : Acyclic E' :=
  fun a b hab p => h a b (hsub _ hab) (p.mono hsub)

theorem acyclic_nil : Acyclic [] := fun _ _ hab => nomatch hab

/-- `C`: the chains of `R`, none returning to its start.  No non-empty `P ⊆ l` has an `R`-successor in `P` for each member:
    following successors `l.length + 1` times would give that many distinct members of `l`. -/
theorem no_endless_walk {α : Type} {R C : α → α → Prop} (single : ∀ {a b}, R a b → C a b)
    (cons : ∀ {a b c}, R a b → C b c → C a c) (irrefl : ∀ a, ¬ C a a) (l : List α) {P : α → Prop}
    (hstep : ∀ a, P a → a ∈ l ∧ ∃ b, R a b ∧ P b) (a : α) : ¬ P a := by
  have walk : ∀ (n : Nat) (a : α), P a → ∃ w : List α, w.length = n ∧ (∀ u ∈ w, C a u ∧ u ∈ l) ∧ w.Pairwise C := by
    intro n
    induction n with
    | zero => exact fun _ _ => ⟨[], rfl, by simp, .nil⟩
    | succ n ih =>
      intro a ha
      obtain ⟨b, hab, hb⟩ := (hstep a ha).2
      obtain ⟨w, hlen, hall, hpw⟩ := ih b hb
      refine ⟨b :: w, by simp [hlen], ?_, List.pairwise_cons.2 ⟨fun u hu => (hall u hu).1, hpw⟩⟩
      intro u hu
      rcases List.mem_cons.1 hu with rfl | hu
      · exact ⟨single hab, (hstep _ hb).1⟩
      · exact ⟨cons hab (hall u hu).1, (hall u hu).2⟩
  intro ha
  obtain ⟨w, hlen, hall, hpw⟩ := walk (l.length + 1) a ha
  have hnd : w.Nodup := hpw.imp fun {a b} (hab : C a b) (heq : a = b) => irrefl _ (heq ▸ hab)
  have := hnd.length_le_of_subset fun u hu => (hall u hu).2
  omega

end Ergo
