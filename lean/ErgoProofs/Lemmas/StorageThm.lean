/-
  Repair, append and torn append of the log file, read back (C03, C04, C12, C13), for any `classify` and `encode` that are a `CodecOn`.
  The repaired file is closed, whatever the file was (`closed_repairTail`), and reads as the file did (`readEvents_repairTail`);
  `appendFile_reads` puts the lines of the batch (`CodecOn.batch`) behind its lines; a torn append is a complete append of some of the
  events and an unterminated rest (`take_linesOf`, `readEvents_rest`).  Then the relations C03 is stated with (`FileStep`, `FileReach`,
  `AppendReach`), and `chunkedRead_spec` (C13).
-/
import ErgoProofs.Lemmas.StorageRead
namespace Ergo.Storage

variable {W : Event → Prop} {classify : Bytes → LineClass} {encode : Event → Bytes} {limit : Nat}

/-- what `readEvents_joinLines` asks of the lines of a batch, and the events it then returns -/
theorem CodecOn.batch (hc : CodecOn W classify encode) {evs : List Event} (hs : Short W encode limit evs) :
    (∀ l ∈ evs.map encode, NL ∉ l ∧ (dropCR l).length < limit ∧ classify (dropCR l) ≠ .bad) ∧
      (evs.map encode).flatMap (fun l => evOf (classify (dropCR l))) = evs := by
  have h : ∀ e ∈ evs, dropCR (encode e) = encode e ∧ classify (encode e) = .ev e := fun e he =>
    ⟨dropCR_noCR _ (hc.clean e (hs e he).1).2.1, hc.parses e (hs e he).1⟩
  constructor
  · intro l hl
    obtain ⟨e, he, rfl⟩ := List.mem_map.1 hl
    rw [(h e he).1, (h e he).2]
    exact ⟨(hc.clean e (hs e he).1).1, (hs e he).2, nofun⟩
  · rw [List.flatMap_map, List.flatMap_def, List.map_congr_left (g := fun e => [e]) fun e he => by rw [(h e he).1, (h e he).2]; rfl,
      ← List.flatMap_def, List.flatMap_singleton']

theorem Short.w {evs : List Event} (hs : Short W encode limit evs) : ∀ e ∈ evs, W e := fun e he => (hs e he).1

theorem Short.take {evs : List Event} (hs : Short W encode limit evs) (n : Nat) : Short W encode limit (evs.take n) :=
  fun e he => hs e (List.mem_of_mem_take he)

theorem repairTail_join_frag {ls : List Bytes} {frag : Bytes} (hls : ∀ l ∈ ls, NL ∉ l) (hf : NL ∉ frag) (hfr : frag ≠ []) :
    repairTail classify (joinLines ls ++ frag) =
      match classify (dropCR frag) with
      | .ev _ => joinLines (ls ++ [frag])
      | _ => joinLines ls := by
  have hne : (joinLines ls ++ frag).isEmpty = false := by simp [hfr]
  simp only [repairTail, hne, endsWithNL_join_frag ls hf hfr, Bool.or_self, Bool.false_eq_true, if_false,
    lastFragment_join hls hf, uptoLastNL_join hls hf]
  cases classify (dropCR frag) <;> simp [joinLines_append]

theorem repairTail_of_closed (classify : Bytes → LineClass) {f : Bytes} (h : Closed f) : repairTail classify f = f := by
  have : (f.isEmpty || endsWithNL f) = true := by
    rcases h with h | h <;> simp [h]
  simp [repairTail, this]

theorem closed_repairTail (classify : Bytes → LineClass) (f : Bytes) : Closed (repairTail classify f) := by
  obtain ⟨ls, frag, hls, hf, rfl⟩ := decomp f
  by_cases hfr : frag = []
  · rw [hfr, List.append_nil, repairTail_of_closed classify (closed_joinLines ls)]
    exact closed_joinLines ls
  · rw [repairTail_join_frag hls hf hfr]
    cases classify (dropCR frag) <;> exact closed_joinLines _

/-- C03: the repair loses nothing a reader could see -/
theorem readEvents_repairTail {f : Bytes} {es : List Event} (hr : readEvents classify limit f = .ok es) :
    readEvents classify limit (repairTail classify f) = .ok es := by
  obtain ⟨ls, frag, hls, hf, rfl⟩ := decomp f
  by_cases hfr : frag = []
  · rw [hfr, List.append_nil] at hr ⊢
    rwa [repairTail_of_closed classify (closed_joinLines ls)]
  · obtain ⟨hgood, hlen, rfl⟩ := (readEvents_join_frag hls hf hfr).1 hr
    rw [repairTail_join_frag hls hf hfr]
    cases hc : classify (dropCR frag) with
    | ev e =>
      -- the rest is an event: read as before, now as a line
      rw [readEvents_joinLines (List.forall_mem_append.2 ⟨hls, List.forall_mem_singleton.2 hf⟩), List.forall_mem_append,
        List.flatMap_append, List.forall_mem_singleton, List.flatMap_singleton, hc]
      exact ⟨⟨hgood, hlen, nofun⟩, rfl⟩
    | _ =>
      -- not an event: it contributed nothing
      exact (readEvents_joinLines hls).2 ⟨hgood, List.append_nil _⟩

theorem linesOf_cons (encode : Event → Bytes) (e : Event) (evs : List Event) :
    linesOf encode (e :: evs) = (encode e ++ [NL]) ++ linesOf encode evs := by
  simp [linesOf]

theorem take_linesOf (encode : Event → Bytes) (evs : List Event) (k : Nat) :
    ∃ n p, n ≤ evs.length ∧ (linesOf encode evs).take k = linesOf encode (evs.take n) ++ p ∧
      (p = [] ∨ ∃ e, evs[n]? = some e ∧ p <+: encode e ∧ p ≠ []) := by
  induction evs generalizing k with
  | nil => exact ⟨0, [], Nat.le_refl _, List.take_nil, .inl rfl⟩
  | cons e evs ih =>
    rw [linesOf_cons]
    by_cases hk : k ≤ (encode e).length
    · -- the cut falls inside the first line
      refine ⟨0, (encode e).take k, Nat.zero_le _, by rw [List.append_assoc, List.take_append_of_le_length hk]; rfl, ?_⟩
      by_cases h0 : (encode e).take k = []
      · exact .inl h0
      · exact .inr ⟨e, rfl, List.take_prefix _ _, h0⟩
    · -- the first line is whole: cut the rest
      obtain ⟨k', rfl⟩ : ∃ k', k = (encode e ++ [NL]).length + k' := ⟨k - ((encode e).length + 1), by rw [List.length_append, List.length_singleton]; omega⟩
      obtain ⟨n, p, hn, htake, hp⟩ := ih k'
      exact ⟨n + 1, p, Nat.succ_le_succ hn,
        by rw [List.take_length_add_append, htake, List.take_succ_cons, linesOf_cons, List.append_assoc (encode e ++ [NL])], hp⟩

/-- C03 core: on any readable file, however torn before, an append makes exactly the new events visible after the old, and the file is closed -/
theorem appendFile_reads (hc : CodecOn W classify encode) {f : Bytes} {es evs : List Event}
    (hr : readEvents classify limit f = .ok es) (hs : Short W encode limit evs) :
    readEvents classify limit (appendFile classify encode f evs) = .ok (es ++ evs) ∧
    Closed (appendFile classify encode f evs) := by
  have h := readEvents_repairTail hr
  obtain ⟨ls, hls, hrep⟩ := decomp_closed (closed_repairTail classify f)
  rw [hrep] at h
  obtain ⟨hgood, rfl⟩ := (readEvents_joinLines hls).1 h
  obtain ⟨hb, hev⟩ := hc.batch hs
  rw [appendFile, hrep, linesOf_eq_joinLines, ← joinLines_append]
  refine ⟨?_, closed_joinLines _⟩
  rw [readEvents_joinLines (List.forall_mem_append.2 ⟨hls, fun l hl => (hb l hl).1⟩), List.forall_mem_append, List.flatMap_append, hev]
  exact ⟨⟨hgood, fun l hl => (hb l hl).2⟩, rfl⟩

theorem readEvents_linesOf (hc : CodecOn W classify encode) {evs : List Event} (hs : Short W encode limit evs) :
    readEvents classify limit (linesOf encode evs) = .ok evs := by
  obtain ⟨hb, hev⟩ := hc.batch hs
  rw [linesOf_eq_joinLines]
  exact (readEvents_joinLines fun l hl => (hb l hl).1).2 ⟨fun l hl => (hb l hl).2, hev.symm⟩

theorem appendTorn_reads (hc : CodecOn W classify encode) {f : Bytes} {es evs : List Event} (k : Nat)
    (hr : readEvents classify limit f = .ok es) (hs : Short W encode limit evs) :
    ∃ n, n ≤ evs.length ∧ readEvents classify limit (appendTorn classify encode f evs k) = .ok (es ++ evs.take n) := by
  obtain ⟨n, p, hn, htake, hp⟩ := take_linesOf encode evs k
  obtain ⟨hread, hcl⟩ := appendFile_reads hc hr (hs.take n)
  rw [appendTorn, htake, ← List.append_assoc, ← appendFile]
  rcases hp with rfl | ⟨e, he, hpre, hne⟩
  · exact ⟨n, hn, by rw [List.append_nil, hread]⟩
  · -- the cut is inside the line of `e`: a complete append of `n` events, then an unterminated rest
    obtain ⟨hwe, hlen⟩ := hs e (List.mem_of_getElem? he)
    obtain ⟨hNL, hCR, -⟩ := hc.clean e hwe
    have hp : dropCR p = p := dropCR_noCR p fun h => hCR (hpre.subset h)
    rw [readEvents_rest hcl (fun h => hNL (hpre.subset h)) hne (by rw [hp]; exact Nat.lt_of_le_of_lt hpre.length_le hlen), hread, hp]
    by_cases hpe : p = encode e
    · refine ⟨n + 1, (List.getElem?_eq_some_iff.1 he).1, ?_⟩
      rw [hpe, hc.parses e hwe, List.take_add_one, he]
      simp [Except.map, evOf]
    · refine ⟨n, hn, ?_⟩
      rw [hc.prefix_bad e p hwe hpre hpe hne]
      simp [Except.map, evOf]

/-- what can happen to the log file: a command appends (acknowledged); its write is torn at byte `k` and the process dies; the log is
    atomically replaced by a complete re-encoding (plan/compact) -/
inductive FileStep (W : Event → Prop) (classify : Bytes → LineClass) (encode : Event → Bytes) (limit : Nat) : Bytes → Bytes → Prop where
  | append (f evs) : Short W encode limit evs → FileStep W classify encode limit f (appendFile classify encode f evs)
  | torn (f evs k) : Short W encode limit evs → FileStep W classify encode limit f (appendTorn classify encode f evs k)
  | replace (f evs) : Short W encode limit evs → FileStep W classify encode limit f (replaceFile encode evs)

/-- reachable by such steps in any number and order, rewrites included (without them: `AppendReach`) -/
inductive FileReach (W : Event → Prop) (classify : Bytes → LineClass) (encode : Event → Bytes) (limit : Nat) : Bytes → Bytes → Prop where
  | refl (f) : FileReach W classify encode limit f f
  | tail {a b c} : FileReach W classify encode limit a b → FileStep W classify encode limit b c → FileReach W classify encode limit a c

/-- reachable by appends and torn appends alone, without rewrites (plan/compact) -/
inductive AppendReach (W : Event → Prop) (classify : Bytes → LineClass) (encode : Event → Bytes) (limit : Nat) : Bytes → Bytes → Prop where
  | refl (f) : AppendReach W classify encode limit f f
  | append {a b} (evs) : AppendReach W classify encode limit a b → Short W encode limit evs →
      AppendReach W classify encode limit a (appendFile classify encode b evs)
  | torn {a b} (evs k) : AppendReach W classify encode limit a b → Short W encode limit evs →
      AppendReach W classify encode limit a (appendTorn classify encode b evs k)

theorem readAt_prefix {acc f : Bytes} (n : Nat) (h : acc <+: f) : acc ++ readAt f acc.length n <+: f := by
  obtain ⟨t, rfl⟩ := h
  simp only [readAt, List.drop_left]
  exact (List.prefix_append_right_inj acc).2 (List.take_prefix n t)

theorem readAt_all {acc f : Bytes} {n : Nat} (h : acc <+: f) (hn : f.length ≤ acc.length + n) : acc ++ readAt f acc.length n = f := by
  obtain ⟨t, rfl⟩ := h
  simp only [readAt, List.drop_left]
  rw [List.take_of_length_le]
  simpa using hn

theorem chunkedRead_spec (vs : List (Bytes × Nat)) (acc : Bytes) (h : GrowsOnly (vs.map (·.1))) (hne : vs ≠ [])
    (hacc : acc <+: (vs.head hne).1) :
    chunkedRead vs acc <+: (vs.getLast hne).1 ∧
      ((vs.getLast hne).1.length ≤ (vs.getLast hne).2 → chunkedRead vs acc = (vs.getLast hne).1) := by
  induction vs generalizing acc with
  | nil => exact absurd rfl hne
  | cons v rest ih =>
    obtain ⟨f, n⟩ := v
    cases rest with
    | nil => exact ⟨readAt_prefix n hacc, fun hn => readAt_all hacc (Nat.le_trans hn (Nat.le_add_left ..))⟩
    | cons w rest' =>
      have hg : f <+: w.1 ∧ GrowsOnly ((w :: rest').map (·.1)) := h
      simpa [chunkedRead] using ih (acc ++ readAt f acc.length n) hg.2 (by simp) ((readAt_prefix n hacc).trans hg.1)

end Ergo.Storage
