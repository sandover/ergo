/-
  The JSON document on stdin (ErgoModel.Input), the two halves of C17_stdin_document_roundtrip (Props/C17: `ParseTaskInput` decodes the
  document an agent pipes in for a set of fields to exactly those fields).  `document_encObj`: an encoded object of any values the
  scanner skips (`Val`, nested ones too) is read as its members, and refused when anything but white space follows it
  (C11_second_value_rejected); `ptrFields_enc`: the members decode to the fields, for any schema of pointer fields whose names stay
  distinct under Go's case folding.
-/
import ErgoProofs.Lemmas.CodecObj
import ErgoModel.Input
open Ergo Ergo.Storage Ergo.Codec Ergo.Input
namespace Ergo.Input

/-- one document an agent may pipe in: present fields as JSON strings (`encStr`: `json.Marshal`'s escaping), in schema order -/
def taskInputMembers (t : TaskInput) : List (String × Bytes) :=
  ([("title", t.title), ("body", t.body), ("epic", t.epic), ("state", t.state), ("claim", t.claim),
    ("result_path", t.resultPath), ("result_summary", t.resultSummary)].filterMap fun kv => kv.2.map fun v => (kv.1, encStr v))

def encTaskInput (t : TaskInput) : Bytes := encObj (taskInputMembers t)

theorem val_taskInputMembers (t : TaskInput) (d : Nat) : ∀ kv ∈ taskInputMembers t, Val 1 d kv.2 := by
  intro kv hkv
  simp only [taskInputMembers, List.mem_filterMap] at hkv
  obtain ⟨⟨k, o⟩, _, h⟩ := hkv
  cases o with
  | none => simp at h
  | some v => simp at h; subst h; exact val_encStr _ _

theorem taskInputMembers_length_le (t : TaskInput) : (taskInputMembers t).length ≤ 7 := by
  simp only [taskInputMembers]
  exact Nat.le_trans (List.length_filterMap_le _ _) (by simp)

theorem firstValue_encObj (f0 : Nat) (kvs : List (String × Bytes)) (hv : ∀ kv ∈ kvs, Val f0 (DEPTH - 1) kv.2) (hlen : f0 + kvs.length ≤ 999)
    (tail : Bytes) : firstValue (encObj kvs ++ tail) = some (encObj kvs, tail) := by
  have hv := val_encObj _ f0 kvs hv
  simp only [firstValue, hv.start]
  rw [show DEPTH = DEPTH - 1 + 1 from rfl, hv.skip FUEL (FUEL_ge _ (by omega))]
  simp only [consumed_eq]

theorem document_encObj (f0 : Nat) (kvs : List (String × Bytes)) (hv : ∀ kv ∈ kvs, Val f0 (DEPTH - 1) kv.2) (hlen : f0 + kvs.length ≤ 999)
    (tail : Bytes) :
    document (encObj kvs ++ tail) = if skipWs tail = [] then some (kvs.map fun kv => (rawOf kv.1, kv.2)) else none := by
  simp only [document, firstValue_encObj f0 kvs hv hlen tail, parseTop_encObj f0 kvs hv (by omega), ne_eq, ite_not]

/-- the step of `ptrFields`' fold (a `fun` in the model, hence written out) on a member whose value is an encoded string -/
theorem ptrStep_str (names : List String) (cur : List (Option String)) (k v : String) (i : Nat)
    (hi : names.findIdx? (fun n => decide (foldKey k = foldKey n)) = some i) :
    (match names.findIdx? (fun n => keyMatches (rawOf k, encStr v).1 n) with
      | none => none
      | some i =>
        match valKind (rawOf k, encStr v).2 with
        | .str => some (cur.set i (some (strVal (rawOf k, encStr v).2)))
        | .null => some (cur.set i none)
        | .other => none) = some (cur.set i (some v)) := by
  simp only [keyMatches_rawOf, hi, valKind_encStr, strVal_encStr]

theorem init7 : (taskInputFields.map fun _ => (none : Option String)) = [none, none, none, none, none, none, none] := rfl

/-- the members an encoder writes for pointer fields `names` holding `vals`: absent fields left out -/
def encPtrMembers (names : List String) (vals : List (Option String)) : List (String × Bytes) :=
  (names.zip vals).filterMap fun kv => kv.2.map fun v => (kv.1, encStr v)

theorem taskInputMembers_eq (t : TaskInput) : taskInputMembers t =
    encPtrMembers taskInputFields [t.title, t.body, t.epic, t.state, t.claim, t.resultPath, t.resultSummary] := rfl

/-- a key finds its own field, at index `pre.length`, since no earlier name folds alike -/
theorem ptrFields_enc_from (pre post : List String) (hd : (pre ++ post).Pairwise fun a b => foldKey a ≠ foldKey b)
    (vpre vpost : List (Option String)) (h1 : vpre.length = pre.length) (h2 : vpost.length = post.length) :
    ((encPtrMembers post vpost).map fun kv => (rawOf kv.1, kv.2)).foldl (fun acc m =>
      match acc with
      | none => none
      | some cur =>
        match (pre ++ post).findIdx? (fun n => keyMatches m.1 n) with
        | none => none
        | some i =>
          match valKind m.2 with
          | .str => some (cur.set i (some (strVal m.2)))
          | .null => some (cur.set i none)
          | .other => none) (some (vpre ++ post.map fun _ => none)) = some (vpre ++ vpost) := by
  induction post generalizing pre vpre vpost with
  | nil => cases vpost with
    | nil => rfl
    | cons _ _ => cases h2
  | cons n post ih =>
    cases vpost with
    | nil => cases h2
    | cons o vs =>
      have ih' := fun w => ih (pre ++ [n]) (by simpa using hd) (vpre ++ [w]) vs (by simp [h1]) (by simpa using h2)
      simp only [List.append_assoc, List.singleton_append] at ih'
      cases o with
      | none => exact ih' none
      | some v =>
        have hi : (pre ++ n :: post).findIdx? (fun m => decide (foldKey n = foldKey m)) = some pre.length := by
          have hpre : ∀ a ∈ pre, foldKey n ≠ foldKey a := fun a ha => ((List.pairwise_append.1 hd).2.2 a ha n (by simp)).symm
          rw [List.findIdx?_append, List.findIdx?_eq_none_iff.2 (by simpa using hpre)]
          simp [List.findIdx?_cons]
        simp only [encPtrMembers, List.zip_cons_cons, List.filterMap_cons, Option.map_some, List.map_cons, List.foldl_cons]
        rw [ptrStep_str _ _ _ _ _ hi, ← h1, List.set_append_right _ _ (Nat.le_refl _), Nat.sub_self, List.set_cons_zero]
        exact ih' (some v)

theorem ptrFields_enc (names : List String) (hd : names.Pairwise fun a b => foldKey a ≠ foldKey b)
    (vals : List (Option String)) (hl : vals.length = names.length) :
    ptrFields names ((encPtrMembers names vals).map fun kv => (rawOf kv.1, kv.2)) = some vals :=
  ptrFields_enc_from [] names hd [] vals rfl hl

end Ergo.Input
