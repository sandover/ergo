/-
  Every file is `joinLines ls ++ frag`: complete lines, then what follows the last newline (`decomp`); a `Closed` file has no `frag`
  (`decomp_closed`, conversely `closed_joinLines`).  What `splitNL`, `scanLines`, `lastFragment`, `uptoLastNL`, `endsWithNL` compute on that form.
  Last, what the storage lemmas assume of a line format (`CodecOn`, `Short`): stated here so that the codec modules, which prove it
  (`Codec.jsonCodec`), need none of the reader's lemmas.
-/
import ErgoModel.Storage
namespace Ergo.Storage

def joinLines (ls : List Bytes) : Bytes := ls.flatMap fun l => l ++ [NL]

@[simp] theorem joinLines_nil : joinLines [] = [] := rfl
@[simp] theorem joinLines_cons (l : Bytes) (ls : List Bytes) : joinLines (l :: ls) = l ++ NL :: joinLines ls := by
  simp [joinLines]
theorem joinLines_append (a b : List Bytes) : joinLines (a ++ b) = joinLines a ++ joinLines b := by
  simp [joinLines]

theorem linesOf_eq_joinLines (encode : Event → Bytes) (evs : List Event) :
    linesOf encode evs = joinLines (evs.map encode) := by
  simp [linesOf, joinLines, List.flatMap_map]

theorem splitNL_ne_nil (f : Bytes) : splitNL f ≠ [] := by
  fun_cases splitNL f <;> simp

theorem splitNL_cons (b : UInt8) (bs : Bytes) :
    splitNL (b :: bs) = if b = NL then [] :: splitNL bs
      else ((splitNL bs).head (splitNL_ne_nil bs) |> (b :: ·)) :: (splitNL bs).tail := by
  rw [splitNL]
  split
  next h => exact absurd h (splitNL_ne_nil bs)
  next l ls h => simp [h]

theorem splitNL_noNL (l : Bytes) (h : NL ∉ l) : splitNL l = [l] := by
  induction l with
  | nil => rfl
  | cons b bs ih =>
    simp only [List.mem_cons, not_or] at h
    simp [splitNL_cons, ih h.2, Ne.symm h.1]

theorem splitNL_line (l rest : Bytes) (h : NL ∉ l) : splitNL (l ++ NL :: rest) = l :: splitNL rest := by
  induction l with
  | nil => simp [splitNL_cons]
  | cons b bs ih =>
    simp only [List.mem_cons, not_or] at h
    simp [splitNL_cons, ih h.2, Ne.symm h.1]

theorem splitNL_join {ls : List Bytes} {frag : Bytes} (hls : ∀ l ∈ ls, NL ∉ l) (hf : NL ∉ frag) :
    splitNL (joinLines ls ++ frag) = ls ++ [frag] := by
  induction ls with
  | nil => simpa using splitNL_noNL frag hf
  | cons l ls ih =>
    rw [joinLines_cons, List.append_assoc, List.cons_append, splitNL_line _ _ (hls l (by simp)),
      ih (fun x hx => hls x (by simp [hx]))]
    rfl

theorem decomp (f : Bytes) : ∃ ls frag, (∀ l ∈ ls, NL ∉ l) ∧ NL ∉ frag ∧ f = joinLines ls ++ frag := by
  induction f with
  | nil => exact ⟨[], [], by simp, by simp, by simp⟩
  | cons b bs ih =>
    obtain ⟨ls, frag, hls, hf, rfl⟩ := ih
    by_cases hb : b = NL
    · exact ⟨[] :: ls, frag, by simpa using hls, hf, by simp [hb]⟩
    · cases ls with
      | nil => exact ⟨[], b :: frag, by simp, by simp [hf, Ne.symm hb], rfl⟩
      | cons l ls =>
        exact ⟨(b :: l) :: ls, frag, by simpa [Ne.symm hb] using hls, hf, rfl⟩

theorem endsWithNL_nil : endsWithNL [] = false := rfl

theorem endsWithNL_append (a b : Bytes) (hb : b ≠ []) : endsWithNL (a ++ b) = endsWithNL b := by
  simp [endsWithNL, List.getLast?_append, List.getLast?_eq_some_getLast hb]

theorem endsWithNL_joinLines (ls : List Bytes) (h : ls ≠ []) : endsWithNL (joinLines ls) = true := by
  rcases List.eq_nil_or_concat ls with rfl | ⟨L, l, rfl⟩
  · exact absurd rfl h
  · simp [endsWithNL, joinLines_append]

theorem endsWithNL_join_frag (ls : List Bytes) {frag : Bytes} (hf : NL ∉ frag) (hne : frag ≠ []) :
    endsWithNL (joinLines ls ++ frag) = false := by
  rw [endsWithNL_append _ _ hne]
  simpa [endsWithNL] using fun h => hf (List.mem_of_getLast? h)

theorem scanLines_nil : scanLines [] = [] := by
  simp [scanLines, splitNL]

theorem scanLines_joinLines {ls : List Bytes} (hls : ∀ l ∈ ls, NL ∉ l) : scanLines (joinLines ls) = ls.map dropCR := by
  have h := splitNL_join hls List.not_mem_nil
  rw [List.append_nil] at h
  simp [scanLines, h]

theorem scanLines_join_frag {ls : List Bytes} {frag : Bytes} (hls : ∀ l ∈ ls, NL ∉ l) (hf : NL ∉ frag) (hne : frag ≠ []) :
    scanLines (joinLines ls ++ frag) = (ls ++ [frag]).map dropCR := by
  simp [scanLines, splitNL_join hls hf, hne]

theorem lastFragment_join {ls : List Bytes} {frag : Bytes} (hls : ∀ l ∈ ls, NL ∉ l) (hf : NL ∉ frag) :
    lastFragment (joinLines ls ++ frag) = frag := by
  simp [lastFragment, splitNL_join hls hf]

theorem uptoLastNL_join {ls : List Bytes} {frag : Bytes} (hls : ∀ l ∈ ls, NL ∉ l) (hf : NL ∉ frag) :
    uptoLastNL (joinLines ls ++ frag) = joinLines ls := by
  simp [uptoLastNL, lastFragment_join hls hf]

/-- no unterminated rest: what `repairTail` and every complete write leave (`closed_repairTail`, `appendFile_reads`) -/
def Closed (f : Bytes) : Prop := f = [] ∨ endsWithNL f = true

/-- the spelling of `repairTail`'s and `appendProgram`'s test, which C13 and its witness take as hypothesis -/
theorem closed_iff {f : Bytes} : Closed f ↔ f.isEmpty ∨ endsWithNL f = true := or_congr_left List.isEmpty_iff.symm

theorem closed_joinLines (ls : List Bytes) : Closed (joinLines ls) := by
  cases ls with
  | nil => exact .inl rfl
  | cons l ls => exact .inr (endsWithNL_joinLines _ (List.cons_ne_nil l ls))

theorem closed_append {a b : Bytes} (ha : Closed a) (hb : Closed b) : Closed (a ++ b) := by
  rcases hb with rfl | hb
  · rwa [List.append_nil]
  · exact .inr (by rwa [endsWithNL_append a b (by rintro rfl; cases hb)])

theorem decomp_closed {f : Bytes} (h : Closed f) : ∃ ls, (∀ l ∈ ls, NL ∉ l) ∧ f = joinLines ls := by
  obtain ⟨ls, frag, hls, hf, rfl⟩ := decomp f
  by_cases hfr : frag = []
  · exact ⟨ls, hls, by simp [hfr]⟩
  · rcases h with h | h
    · simp [hfr] at h
    · rw [endsWithNL_join_frag ls hf hfr] at h; cases h

theorem dropCR_length_le (l : Bytes) : (dropCR l).length ≤ l.length := by
  unfold dropCR
  split
  · simp
  · exact Nat.le_refl _

theorem dropCR_noCR (l : Bytes) (h : CR ∉ l) : dropCR l = l := by
  unfold dropCR
  split
  · rename_i h'
    exact absurd (List.mem_of_getLast? h') h
  · rfl

/-- what is assumed of `classify` (what bytes.TrimSpace + json.Unmarshal make of a line) and `encode` (json.Marshal of an event), for the
    events in `W` (those a writer may be asked to write).  `Codec.jsonCodec` proves it of ergo's line format with `W` = `Codec.Wf` (what
    is trusted there: head of Lemmas/CodecThm); Witness/Unary has a toy instance with `W` = everything -/
structure CodecOn (W : Event → Prop) (classify : Bytes → LineClass) (encode : Event → Bytes) : Prop where
  clean : ∀ e, W e → NL ∉ encode e ∧ CR ∉ encode e ∧ encode e ≠ []
  parses : ∀ e, W e → classify (encode e) = .ev e
  prefix_bad : ∀ e p, W e → p <+: encode e → p ≠ encode e → p ≠ [] → classify p = .bad
  empty_blank : classify [] = .blank

abbrev Codec (classify : Bytes → LineClass) (encode : Event → Bytes) : Prop := CodecOn (fun _ => True) classify encode

/-- each of `evs` is an event a writer may write (`W`: `Short.w`) and its encoded line is shorter than the scanner's limit -/
def Short (W : Event → Prop) (encode : Event → Bytes) (limit : Nat) (evs : List Event) : Prop := ∀ e ∈ evs, W e ∧ (encode e).length < limit

end Ergo.Storage
