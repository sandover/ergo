/-
  Time stamps.  `civil_roundtrip`: `civilFromDays_split` names the counts `a b c d` of 400-year cycles, centuries, four-year groups
  and years that `civilFromDays` computes; `yearDays_split` and `month_table` say that `daysFromCivil` adds the same days up again.
  `parse_format` is `parse_fields` (the parser reads back any well-formed field values) at the fields `format` writes.
-/
import ErgoModel.Time
open Ergo Ergo.Time
namespace Ergo.Time

/-- the left side is how `daysFromCivil` counts the days in `Y` whole years -/
theorem yearDays_split {Y a b c d : Nat} (hY : Y = 400 * a + 100 * b + 4 * c + d) (hb : b ≤ 3) (hc : c ≤ 24) (hd : d ≤ 3) :
    365 * Y + Y / 4 - Y / 100 + Y / 400 = 146097 * a + 36524 * b + 1461 * c + 365 * d := by
  lia

theorem isLeap_iff (y : Nat) : isLeap y = true ↔ (y % 4 = 0 ∧ (y % 100 ≠ 0 ∨ y % 400 = 0)) := by
  simp [isLeap]

theorem isLeap_of_split {Y a b c d : Nat} (hY : Y = 400 * a + 100 * b + 4 * c + d) (hc : c ≤ 24)
    (h : d = 3 ∧ (c ≠ 24 ∨ b = 3)) : isLeap (Y + 1) = true := by
  rw [isLeap_iff]; lia

/-- the lets of `civilFromDays` named (`rfl` fills them in); only a year as in `isLeap_of_split` has a day 365 -/
theorem civilFromDays_split (n : Nat) : ∃ Y a b c d doy, Y = 400 * a + 100 * b + 4 * c + d ∧
    civilFromDays n = (Y + 1, monthOf doy (isLeap (Y + 1)), doy - daysBefore (monthOf doy (isLeap (Y + 1))) (isLeap (Y + 1)) + 1) ∧
    b ≤ 3 ∧ c ≤ 24 ∧ d ≤ 3 ∧ n = 146097 * a + 36524 * b + 1461 * c + 365 * d + doy ∧ doy < 366 ∧
    (doy = 365 → d = 3 ∧ (c ≠ 24 ∨ b = 3)) :=
  ⟨_, _, _, _, _, _, rfl, rfl, by lia⟩

/-- `monthOf` and `daysBefore` agree: evaluated for each day of a common and of a leap year -/
theorem month_table (y doy : Nat) (h : doy < 366) (hl : doy = 365 → isLeap y = true) :
    1 ≤ monthOf doy (isLeap y) ∧ monthOf doy (isLeap y) ≤ 12 ∧ daysBefore (monthOf doy (isLeap y)) (isLeap y) ≤ doy ∧
      doy < daysBefore (monthOf doy (isLeap y)) (isLeap y) + daysIn (monthOf doy (isLeap y)) y := by
  unfold daysIn
  generalize isLeap y = leap at *
  revert doy leap
  decide +kernel

/-- in the last clause: 3652059 days go before year 10000 -/
theorem civil_roundtrip {n y m d : Nat} (h : civilFromDays n = (y, m, d)) :
    daysFromCivil y m d = n ∧ 1 ≤ y ∧ 1 ≤ m ∧ m ≤ 12 ∧ 1 ≤ d ∧ d ≤ daysIn m y ∧ (n < 3652059 → y < 10000) := by
  obtain ⟨Y, a, b, c, e, doy, hY, hciv, hb, hc, he, hn, hdoy, hm⟩ := civilFromDays_split n
  cases hciv.symm.trans h
  replace hm := month_table (Y + 1) doy hdoy fun h => isLeap_of_split hY hc (hm h)
  have hY' := yearDays_split hY hb hc he
  simp only [daysFromCivil, Nat.add_sub_cancel]
  lia

theorem digitVal_digitChar (n : Nat) : digitVal? (digitChar n) = some (n % 10) :=
  (by decide : ∀ k : Fin 10, digitVal? (Char.ofNat (48 + k.val)) = some k.val) ⟨n % 10, Nat.mod_lt _ (by decide)⟩

theorem isDigit_digitChar (n : Nat) : isDigit (digitChar n) = true := by simp [isDigit, digitVal_digitChar]

theorem digitChar_toNat (n : Nat) : (digitChar n).toNat - 48 = n % 10 :=
  (by decide : ∀ k : Fin 10, (Char.ofNat (48 + k.val)).toNat - 48 = k.val) ⟨n % 10, Nat.mod_lt _ (by decide)⟩

theorem year4_d4 (y : Nat) (hy : y < 10000) (rest : List Char) : year4 (d4 y ++ rest) = some (y, rest) := by
  simp only [d4, List.cons_append, List.nil_append, year4, digitVal_digitChar]
  simp only [Option.some.injEq, Prod.mk.injEq, and_true]; lia

theorem getnum_d2 (n : Nat) (hn : n < 100) (fixed : Bool) (rest : List Char) : getnum (d2 n ++ rest) fixed = some (n, rest) := by
  simp only [d2, List.cons_append, List.nil_append, getnum, digitVal_digitChar]
  simp only [Option.some.injEq, Prod.mk.injEq, and_true]; omega

theorem dropTrailingZeros_spec (l : List Char) : ∃ k, l = dropTrailingZeros l ++ List.replicate k '0' := by
  have h := congrArg List.reverse (List.takeWhile_append_dropWhile (p := (· == '0')) (l := l.reverse))
  rw [List.reverse_append, List.reverse_reverse] at h
  have hz := List.eq_replicate_of_mem (l := (l.reverse.takeWhile (· == '0')).reverse) (a := '0') fun c hc => by
    simpa using List.all_eq_true.1 List.all_takeWhile c (List.mem_reverse.1 hc)
  exact ⟨_, h.symm.trans (congrArg _ hz)⟩

theorem digitsVal_append (a b : List Char) : digitsVal (a ++ b) = digitsVal a * 10 ^ b.length + digitsVal b := by
  have : ∀ acc, b.foldl (fun acc c => acc * 10 + (c.toNat - 48)) acc = acc * 10 ^ b.length + digitsVal b := by
    induction b with
    | nil => intro acc; simp [digitsVal]
    | cons d l ih =>
      intro acc
      rw [digitsVal, List.foldl_cons, List.foldl_cons, ih, ih (0 * 10 + _), List.length_cons, Nat.pow_succ]
      simp only [Nat.add_mul, Nat.zero_mul, Nat.zero_add, Nat.mul_assoc, Nat.add_assoc, Nat.mul_comm 10]
  rw [digitsVal, List.foldl_append, this]; rfl

theorem digitsVal_append_zeros (l : List Char) (k : Nat) : digitsVal (l ++ List.replicate k '0') = digitsVal l * 10 ^ k := by
  have : digitsVal (List.replicate k '0') = 0 := by
    induction k with
    | zero => rfl
    | succ k ih => rw [List.replicate_succ, ← List.singleton_append, digitsVal_append, ih]; simp [digitsVal]
  rw [digitsVal_append, this, List.length_replicate, Nat.add_zero]

/-- the `k` low decimal digits of `n`, most significant first -/
theorem digitsVal_digits (n k : Nat) :
    digitsVal ((List.range k).reverse.map fun i => digitChar (n / 10 ^ i)) = n % 10 ^ k := by
  induction k with
  | zero => simp [digitsVal, Nat.mod_one]
  | succ k ih =>
    rw [List.range_succ, List.reverse_append, List.map_append, digitsVal_append, ih, Nat.mod_pow_succ,
      List.length_map, List.length_reverse, List.length_range, Nat.add_comm, Nat.mul_comm]
    simp [digitsVal, digitChar_toNat]

theorem d9_eq (ns : Nat) : d9 ns = (List.range 9).reverse.map fun i => digitChar (ns / 10 ^ i) := by
  simp [d9, List.range_succ]

theorem digitsVal_d9 (ns : Nat) (h : ns < 1000000000) : digitsVal (d9 ns) = ns := by
  rw [d9_eq, digitsVal_digits]; exact Nat.mod_eq_of_lt h

theorem d9_digits (ns : Nat) : ∀ c ∈ d9 ns, isDigit c = true := by
  intro c hc
  obtain ⟨i, _, rfl⟩ := List.mem_map.1 (d9_eq ns ▸ hc)
  exact isDigit_digitChar _

theorem frac_format (ns : Nat) (h : ns < 1000000000) :
    frac ((if ns = 0 then [] else '.' :: dropTrailingZeros (d9 ns)) ++ ['Z']) = (ns, ['Z']) := by
  by_cases h0 : ns = 0
  · subst h0; rfl
  rw [if_neg h0]
  obtain ⟨k, hk⟩ := dropTrailingZeros_spec (d9 ns)
  generalize dropTrailingZeros (d9 ns) = F at hk
  have hval : digitsVal F * 10 ^ k = ns := by rw [← digitsVal_append_zeros, ← hk]; exact digitsVal_d9 ns h
  have hlen : F.length + k = 9 := by simpa [d9] using (congrArg List.length hk).symm
  have hFd : ∀ c ∈ F, isDigit c = true := fun c hc => d9_digits ns c (hk ▸ List.mem_append_left _ hc)
  cases F with
  | nil => exact absurd (by simpa [digitsVal] using hval.symm) h0
  | cons d r =>
    have htw : (d :: (r ++ ['Z'])).takeWhile isDigit = d :: r := by
      rw [← List.cons_append, List.takeWhile_append_of_pos hFd]; simp +decide
    have hdw : (d :: (r ++ ['Z'])).dropWhile isDigit = ['Z'] := by
      rw [← List.cons_append, List.dropWhile_append_of_pos hFd]; simp +decide
    simp only [List.cons_append, frac, hFd d (by simp), and_true, true_or, if_true, htw, hdw]
    rw [List.take_of_length_le (by omega), show 9 - (d :: r).length = k by omega, hval]

theorem daysIn_le (m y : Nat) : daysIn m y ≤ 31 := by
  fun_cases daysIn m y <;> omega

theorem bind_some {α β} {x : Option α} {a : α} {f : α → Option β} {r : Option β} (hx : x = some a) (hr : f a = r) :
    x >>= f = r := by
  rw [hx]; exact hr

theorem expect_cons (c : Char) (r : List Char) : expect c (c :: r) = some r := if_pos rfl

theorem parse_fields (y m d h mi s ns : Nat) (hy : 1 ≤ y) (hy4 : y < 10000) (hm : 1 ≤ m) (hm12 : m ≤ 12) (hd1 : 1 ≤ d)
    (hd : d ≤ daysIn m y) (hh : h < 24) (hmi : mi < 60) (hs : s < 60) (hns : ns < 1000000000) :
    parse (d4 y ++ '-' :: d2 m ++ '-' :: d2 d ++ 'T' :: d2 h ++ ':' :: d2 mi ++ ':' :: d2 s ++
      (if ns = 0 then [] else '.' :: dropTrailingZeros (d9 ns)) ++ ['Z']) =
    some ((daysFromCivil y m d * 86400 + h * 3600 + mi * 60 + s) * 1000000000 + ns) := by
  have hd31 := daysIn_le m y
  simp only [List.append_assoc, List.cons_append]
  -- one line of `parse` after the other (`simp` with the same lemmas goes through the whole `do` block at every stage: slow)
  unfold parse
  refine bind_some (year4_d4 y hy4 _) ?_
  refine bind_some (expect_cons ..) <| bind_some (getnum_d2 m (by omega) ..) <| (if_neg (by omega)).trans ?_
  refine bind_some (expect_cons ..) <| bind_some (getnum_d2 d (by omega) ..) ?_
  refine bind_some (expect_cons ..) <| bind_some (getnum_d2 h (by omega) ..) <| (if_neg (by omega)).trans ?_
  refine bind_some (expect_cons ..) <| bind_some (getnum_d2 mi (by omega) ..) <| (if_neg (by omega)).trans ?_
  refine bind_some (expect_cons ..) <| bind_some (getnum_d2 s (by omega) ..) <| (if_neg (by omega)).trans ?_
  rw [frac_format ns hns]
  refine bind_some (rfl : zone ['Z'] = some (0, [])) <| (if_neg (by simp)).trans ?_
  refine (if_neg (by omega)).trans <| (if_neg (by omega)).trans ?_
  rw [Int.sub_zero, if_neg (Int.not_lt.2 (Int.natCast_nonneg _)), Int.toNat_natCast]; rfl

/-- first instant of year 10000 (ns since 0001-01-01T00:00:00Z): `formatTime` writes four year digits below it -/
def maxT : Nat := 3652059 * 86400 * 1000000000

theorem parse_format (t : Nat) (h : t < maxT) : parse (format t) = some t := by
  rcases hciv : civilFromDays (t / 1000000000 / 86400) with ⟨y, m, d⟩
  obtain ⟨hrt, hy1, hm1, hm12, hd1, hdin, hy4⟩ := civil_roundtrip hciv
  have hy : y < 10000 := hy4 (by unfold maxT at h; lia)
  simp only [format, hciv, yearDigits, if_pos hy]
  rw [parse_fields y m d _ _ _ _ hy1 hy hm1 hm12 hd1 hdin (by lia) (by lia) (by lia) (Nat.mod_lt _ (by decide)), hrt]
  congr 1
  lia

end Ergo.Time
