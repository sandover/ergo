/-
  Strings of the line codec: the UTF-8 round trip, and the scanner reading an encoded string literal back exactly (`scanStr_rawOf`):
  what `json.Marshal` writes between the quotes are ordinary bytes, two-byte escapes and `\uXXXX` groups (`Units`).
-/
import ErgoProofs.Lemmas.CodecScan
import ErgoProofs.Lemmas.JsonThm
open Ergo Ergo.Storage
namespace Ergo.Codec

/-- a byte `scanStr` takes as it stands: no quote, no backslash, no control byte -/
def PlainByte (b : UInt8) : Prop := b ≠ 34 ∧ b ≠ 92 ∧ ¬ b < 32

theorem ge128_plain (b : UInt8) (h : 128 ≤ b) : PlainByte b :=
  ⟨by rintro rfl; exact absurd h (by decide), by rintro rfl; exact absurd h (by decide),
   fun h0 => absurd (UInt8.lt_of_le_of_lt h h0) (by decide)⟩

theorem utf8EncodeChar_cases (c : Char) :
    (∃ b : UInt8, String.utf8EncodeChar c = [b] ∧ b.toNat = c.toNat ∧ b < 128) ∨ ∀ b ∈ String.utf8EncodeChar c, (128 : UInt8) ≤ b := by
  have hi : ∀ a m : UInt8, 128 ≤ m → 128 ≤ a ||| m := fun _ _ h => UInt8.le_trans h UInt8.right_le_or
  rcases c.utf8Size_eq with hs | hs | hs | hs
  · have hn : c.val.toNat ≤ 127 := by simpa using UInt32.le_iff_toNat_le.1 (Char.utf8Size_eq_one_iff.1 hs)
    have hb : (c.val.toUInt8).toNat = c.toNat := by rw [show c.toNat = c.val.toNat from rfl, UInt32.toNat_toUInt8]; exact Nat.mod_eq_of_lt (by omega)
    exact .inl ⟨_, String.utf8EncodeChar_eq_singleton hs, hb, by rw [UInt8.lt_iff_toNat_lt, hb]; exact Nat.lt_succ_of_le hn⟩
  · rw [String.utf8EncodeChar_eq_cons_cons hs]; exact .inr (by simp [hi])
  · rw [String.utf8EncodeChar_eq_cons_cons_cons hs]; exact .inr (by simp [hi])
  · rw [String.utf8EncodeChar_eq_cons_cons_cons_cons hs]; exact .inr (by simp [hi])

theorem utf8_plain (c : Char) (h1 : c ≠ '"') (h2 : c ≠ '\\') (h3 : 32 ≤ c.toNat) : ∀ b ∈ String.utf8EncodeChar c, PlainByte b := by
  rcases utf8EncodeChar_cases c with ⟨b, he, hbn, _⟩ | h
  · intro x hx; rw [he, List.mem_singleton] at hx; subst hx
    refine ⟨?_, ?_, ?_⟩
    · intro h0; apply h1; rw [h0] at hbn; exact Json.char_eq_of_toNat c 34 (by simpa using hbn.symm)
    · intro h0; apply h2; rw [h0] at hbn; exact Json.char_eq_of_toNat c 92 (by simpa using hbn.symm)
    · intro h0; have := UInt8.lt_iff_toNat_lt.1 h0; simp at this; omega
  · exact fun b hb => ge128_plain b (h b hb)

/-- a raw string body as the encoder writes it -/
inductive Units : Bytes → Prop
  | nil : Units []
  | plain {b : UInt8} {r : Bytes} : PlainByte b → Units r → Units (b :: r)
  | esc {c : UInt8} {r : Bytes} : c ≠ 117 → isSimpleEscape c = true → Units r → Units (92 :: c :: r)
  | uni {h1 h2 h3 h4 : UInt8} {r : Bytes} : isHex h1 = true → isHex h2 = true → isHex h3 = true → isHex h4 = true → Units r →
      Units (92 :: 117 :: h1 :: h2 :: h3 :: h4 :: r)

theorem scanStr_units (B rest : Bytes) (h : Units B) : scanStr (B ++ 34 :: rest) = some (B, rest) := by
  induction h with
  | nil => rw [List.nil_append, scanStr.eq_def]; simp
  | plain hp _ ih =>
    obtain ⟨h1, h2, h3⟩ := hp
    rw [List.cons_append, scanStr.eq_def]; simp [h1, h2, h3, ih]
  | esc hc hs _ ih =>
    rw [List.cons_append, List.cons_append, scanStr.eq_def]; simp [hc, hs, ih]
  | uni a b c d _ ih =>
    simp only [List.cons_append]
    rw [scanStr.eq_def]; simp [a, b, c, d, ih]

theorem units_append {A B : Bytes} (ha : Units A) (hb : Units B) : Units (A ++ B) := by
  induction ha with
  | nil => simpa
  | plain hp _ ih => exact .plain hp ih
  | esc hc hs _ ih => exact .esc hc hs ih
  | uni a b c d _ ih => exact .uni a b c d ih

theorem units_of_plain (l : Bytes) (h : ∀ b ∈ l, PlainByte b) : Units l := by
  induction l with
  | nil => exact .nil
  | cons b r ih => exact .plain (h b (by simp)) (ih fun x hx => h x (by simp [hx]))

theorem utf8Enc_append (a b : List Char) : utf8Enc (a ++ b) = utf8Enc a ++ utf8Enc b := by simp [utf8Enc]
theorem utf8Enc_cons (c : Char) (r : List Char) : utf8Enc (c :: r) = String.utf8EncodeChar c ++ utf8Enc r := by simp [utf8Enc]

theorem hexDigit_byte : ∀ k < 16,
    String.utf8EncodeChar (Json.hexDigit k) = [(Json.hexDigit k).toUInt8] ∧ isHex (Json.hexDigit k).toUInt8 = true := by decide +kernel

theorem units_u4 (n : Nat) : Units (utf8Enc (Json.u4 n)) := by
  have hx (k : Nat) := hexDigit_byte (k % 16) (Nat.mod_lt k (by decide))
  simp only [Json.u4, utf8Enc, List.flatMap_cons, List.flatMap_nil, (hx _).1,
    (by decide : String.utf8EncodeChar '\\' = [92]), (by decide : String.utf8EncodeChar 'u' = [117])]
  exact .uni (hx _).2 (hx _).2 (hx _).2 (hx _).2 .nil

theorem units_short : ∀ p ∈ Json.shortEscapes, Units (utf8Enc ['\\', p.2]) := by
  have : ∀ p ∈ Json.shortEscapes, utf8Enc ['\\', p.2] = [92, p.2.toUInt8] ∧ p.2.toUInt8 ≠ 117 ∧ isSimpleEscape p.2.toUInt8 = true := by decide +kernel
  intro p hp
  obtain ⟨h1, h2, h3⟩ := this p hp
  exact h1 ▸ .esc h2 h3 .nil

theorem units_encodeChar (c : Char) : Units (utf8Enc (Json.encodeChar true c)) := by
  rcases Json.encodeChar_cases true c with ⟨e, he, h⟩ | ⟨_, h⟩ | ⟨h1, h2, h3, h⟩ <;> rw [h]
  · exact units_short (c, e) he
  · exact units_u4 _
  · rw [utf8Enc_cons, utf8Enc, List.flatMap_nil, List.append_nil]
    exact units_of_plain _ (utf8_plain c h1 h2 h3)

theorem units_encodeBody (cs : List Char) : Units (utf8Enc (Json.encodeBody true cs)) := by
  induction cs with
  | nil => exact .nil
  | cons c r ih =>
    rw [Json.encodeBody_cons, utf8Enc_append]; exact units_append (units_encodeChar c) ih

/-- the raw (escaped, UTF-8) text of a string between its quotes -/
def rawOf (s : String) : Bytes := utf8Enc (Json.encodeBody true s.toList)

theorem scanStr_rawOf (s : String) (rest : Bytes) : scanStr (rawOf s ++ 34 :: rest) = some (rawOf s, rest) :=
  scanStr_units _ _ (units_encodeBody s.toList)

theorem decodeRune_encoded (c : Char) (tail : Bytes) : decodeRune? (String.utf8EncodeChar c ++ tail) = some c := by
  unfold decodeRune?
  have hlen : (String.utf8EncodeChar c).length ≤ 4 := by rw [String.length_utf8EncodeChar]; exact c.utf8Size_le_four
  rw [List.take_append, List.take_of_length_le hlen, List.toByteArray_append]
  exact ByteArray.utf8DecodeChar?_utf8EncodeChar_append

theorem utf8DecLossy_encoded (cs : List Char) : utf8DecLossy (utf8Enc cs) = cs := by
  induction cs with
  | nil => simp [utf8Enc, utf8DecLossy]
  | cons c r ih =>
    rw [utf8Enc_cons]
    rcases utf8EncodeChar_cases c with ⟨b, he, hbn, hb⟩ | h
    · rw [he, List.singleton_append, utf8DecLossy, if_pos hb, hbn, ih, Char.ofNat_toNat]
    · cases he : String.utf8EncodeChar c with
      | nil => exact absurd he String.utf8EncodeChar_ne_nil
      | cons b t =>
        have hdec := decodeRune_encoded c (utf8Enc r)
        have hlen : t.length = c.utf8Size - 1 := by
          have := String.length_utf8EncodeChar c; rw [he] at this; simp at this; omega
        have hb : ¬ b < 128 := UInt8.not_lt.2 (h b (by rw [he]; simp))
        rw [he, List.cons_append] at hdec
        rw [List.cons_append, utf8DecLossy, if_neg hb]
        simp only [hdec]
        rw [← hlen, List.drop_left, ih]

end Ergo.Codec
