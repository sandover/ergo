/-
  C05: the ready/blocked queries and the claim order depend on the observable graph only (`ObsEq`): each query reads the items it looks
  up through `obsTask` (`ObsEq.depOpen` … `ObsEq.ready_blocked`).  The claim order is taken on the key `claimLe` compares (`claimKey`,
  `keyLe`) — compaction keeps the keys, not the tasks: two `ObsEq` graphs have the same ready keys (`readyKeys_sub`), without repetition
  (`readyKeys_nodup`), and `readyTasks` sorts them (`readyTasks_keys`).
-/
import ErgoProofs.Lemmas.Basics
namespace Ergo

theorem ObsEq.symm {g g' : Graph} (h : ObsEq g g') : ObsEq g' g :=
  ⟨fun id => (h.1 id).symm, fun e => (h.2 e).symm⟩

theorem ObsEq.find_map {α : Type} {g g' : Graph} (h : ObsEq g g') (F : Obs → α) (id : Id) :
    (g.find? id).map (F ∘ obsTask) = (g'.find? id).map (F ∘ obsTask) := by
  have := congrArg (Option.map F) (h.1 id)
  rwa [Option.map_map, Option.map_map] at this

theorem ObsEq.counterpart {g g' : Graph} (h : ObsEq g g') (hwf : WF g) (t : Task) (ht : t ∈ g.tasks) :
    ∃ t' ∈ g'.tasks, obsTask t = obsTask t' := by
  have h1 := h.1 t.id
  rw [Graph.find?_of_mem hwf ht] at h1
  obtain ⟨t', hf, ho⟩ := Option.map_eq_some_iff.1 h1.symm
  exact ⟨t', (Graph.mem_of_find? hf).1, ho.symm⟩

theorem ObsEq.of_same_id {g g' : Graph} (h : ObsEq g g') (hwf : WF g) (hwf' : WF g') (t t' : Task)
    (ht : t ∈ g.tasks) (ht' : t' ∈ g'.tasks) (hid : t.id = t'.id) : obsTask t = obsTask t' := by
  have h1 := h.1 t.id
  rw [Graph.find?_of_mem hwf ht, hid, Graph.find?_of_mem hwf' ht'] at h1
  simpa using h1

theorem ObsEq.depsOf {g g' : Graph} (h : ObsEq g g') (id d : Id) : d ∈ g.depsOf id ↔ d ∈ g'.depsOf id := by
  rw [mem_depsOf, mem_depsOf]; exact h.2 _

theorem ObsEq.depOpen {g g' : Graph} (h : ObsEq g g') (d : Id) : depOpen g d = depOpen g' d := by
  -- inside a proof the bare name is the lemma itself, so the model's function is written `Ergo.depOpen` (likewise in the next two)
  have e : ∀ g : Graph, Ergo.depOpen g d = ((g.find? d).map obsTask).elim false fun o => !o.st.closed := by
    intro g; unfold Ergo.depOpen; cases g.find? d <;> rfl
  rw [e, e, h.1]

theorem ObsEq.isEpicComplete_imp {g g' : Graph} (h : ObsEq g g') (hwf' : WF g') (e : Id)
    (H : isEpicComplete g e = true) : isEpicComplete g' e = true := by
  unfold isEpicComplete at *
  rw [List.all_eq_true] at *
  intro t' ht'
  obtain ⟨t, ht, ho⟩ := h.symm.counterpart hwf' t' ht'
  have e1 : t'.epicId = t.epicId := congrArg Obs.epicId ho
  have e2 : t'.st = t.st := congrArg Obs.st ho
  rw [e1, e2]
  exact H t ht

theorem ObsEq.isEpicComplete {g g' : Graph} (h : ObsEq g g') (hwf : WF g) (hwf' : WF g') (e : Id) :
    isEpicComplete g e = isEpicComplete g' e := by
  rw [Bool.eq_iff_iff]
  exact ⟨h.isEpicComplete_imp hwf' e, h.symm.isEpicComplete_imp hwf e⟩

theorem ObsEq.areEpicDepsComplete {g g' : Graph} (h : ObsEq g g') (hwf : WF g) (hwf' : WF g') (e : Id) :
    areEpicDepsComplete g e = areEpicDepsComplete g' e := by
  have e' : ∀ g : Graph, Ergo.areEpicDepsComplete g e =
      (g.depsOf e).all fun d => ((g.find? d).map obsTask).elim true fun o => !o.isEpic || Ergo.isEpicComplete g d := by
    intro g; unfold Ergo.areEpicDepsComplete; congr 1; funext d; cases g.find? d <;> rfl
  rw [e', e']
  exact all_congr_mem (h.depsOf e) fun d => by rw [h.1, h.isEpicComplete hwf hwf' d]

theorem ObsEq.ready_blocked {g g' : Graph} (h : ObsEq g g') (hwf : WF g) (hwf' : WF g') (t t' : Task)
    (ho : obsTask t = obsTask t') : isReady g t = isReady g' t' ∧ isBlocked g t = isBlocked g' t' := by
  have e1 : t.st = t'.st := congrArg Obs.st ho
  have e2 : t.claimedBy = t'.claimedBy := congrArg Obs.claimedBy ho
  have e3 : t.epicId = t'.epicId := congrArg Obs.epicId ho
  have e4 : t.id = t'.id := congrArg Obs.id ho
  have a1 : (g.depsOf t.id).all (fun d => !Ergo.depOpen g d) = (g'.depsOf t'.id).all (fun d => !Ergo.depOpen g' d) := by
    rw [e4]; exact all_congr_mem (h.depsOf _) (fun d => by rw [h.depOpen d])
  have a2 : (g.depsOf t.id).any (Ergo.depOpen g) = (g'.depsOf t'.id).any (Ergo.depOpen g') := by
    rw [e4]; exact any_congr_mem (h.depsOf _) (fun d => h.depOpen d)
  have a3 := h.areEpicDepsComplete hwf hwf' t'.epicId
  constructor
  · simp only [isReady, e1, e2, e3, a1, a3]
  · simp only [isBlocked, e1, e2, e3, a2, a3]

def claimKey (t : Task) : Time × Id := (t.createdAt, t.id)
def keyLe (a b : Time × Id) : Bool := a.1 < b.1 || (a.1 == b.1 && strLe a.2 b.2)

theorem claimLe_eq (a b : Task) : claimLe a b = keyLe (claimKey a) (claimKey b) := rfl

theorem keyLe_iff (a b : Time × Id) : keyLe a b = true ↔ a.1 < b.1 ∨ (a.1 = b.1 ∧ a.2 ≤ b.2) := lexLe_iff Prod.fst Prod.snd a b
theorem keyLe_total (a b : Time × Id) : (keyLe a b || keyLe b a) = true := lexLe_total Prod.fst Prod.snd a b
theorem keyLe_trans (a b c : Time × Id) : keyLe a b = true → keyLe b c = true → keyLe a c = true :=
  lexLe_trans Prod.fst Prod.snd a b c
theorem keyLe_antisymm (a b : Time × Id) (h1 : keyLe a b = true) (h2 : keyLe b a = true) : a = b :=
  Prod.ext_iff.2 (lexLe_antisymm Prod.fst Prod.snd a b h1 h2)

theorem ord_strLe_antisymm (a b : String) : strLe a b = true → strLe b a = true → a = b :=
  strLe_antisymm a b

def readySel (g : Graph) (epic : Id) (t : Task) : Bool :=
  (epic == "" || t.epicId == epic) && isReady g t && !t.isEpic

theorem readyTasks_eq (g : Graph) (epic : Id) : readyTasks g epic = (g.tasks.filter (readySel g epic)).mergeSort claimLe := rfl

theorem ObsEq.readyKeys_sub {g g' : Graph} (h : ObsEq g g') (hwf : WF g) (hwf' : WF g') (epic : Id) (k : Time × Id)
    (hk : k ∈ (g.tasks.filter (readySel g epic)).map claimKey) : k ∈ (g'.tasks.filter (readySel g' epic)).map claimKey := by
  simp only [List.mem_map, List.mem_filter] at hk ⊢
  obtain ⟨t, ⟨ht, hsel⟩, rfl⟩ := hk
  obtain ⟨t', ht', ho⟩ := h.counterpart hwf t ht
  refine ⟨t', ⟨ht', ?_⟩, (congrArg (fun o : Obs => (o.createdAt, o.id)) ho).symm⟩
  have e1 : t.epicId = t'.epicId := congrArg Obs.epicId ho
  have e2 : t.isEpic = t'.isEpic := congrArg Obs.isEpic ho
  have e3 := (h.ready_blocked hwf hwf' t t' ho).1
  simpa only [readySel, e1, e2, e3] using hsel

theorem readyKeys_nodup (g : Graph) (hwf : WF g) (epic : Id) : ((g.tasks.filter (readySel g epic)).map claimKey).Nodup := by
  have h : (((g.tasks.filter (readySel g epic)).map claimKey).map (·.2)).Nodup := by
    rw [List.map_map]
    exact hwf.nodup.sublist ((List.filter_sublist (l := g.tasks)).map _)
  exact List.Pairwise.of_map (·.2) (fun a b hne heq => hne (heq ▸ rfl)) h

theorem readyTasks_keys (g : Graph) (epic : Id) :
    (readyTasks g epic).map claimKey = ((g.tasks.filter (readySel g epic)).map claimKey).mergeSort keyLe := by
  rw [readyTasks_eq]
  exact List.map_mergeSort (fun a _ b _ => claimLe_eq a b)

end Ergo
