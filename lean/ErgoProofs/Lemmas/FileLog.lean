/-
  The bytes of the store and the abstract log: after any sequence of commands the file decodes, with ergo's real line format, to
  the event list the command theorems speak about (`fileLog_reads`).
-/
import ErgoProofs.Lemmas.WireWf
import ErgoProofs.Lemmas.StorageThm
open Ergo Ergo.Storage Ergo.Codec
namespace Ergo.Codec

/-- what a command's write does to the bytes of the log file; `ets`: envelope time stamps of its lines -/
def fileAfter (ets : Event → String) (f : Bytes) : Option Write → Bytes
  | none => f
  | some (.append evs) => appendFile classifyLine (encodeEvent ets) f evs
  | some (.replace evs) => replaceFile (encodeEvent ets) evs

/-- the abstract log together with the bytes of `.ergo/plans.jsonl` after any sequence of commands run one at a time from the empty store.
    Assumed of each command: clock readings before year 10000 (`EnvT`), and every event of the log it leaves, encoded with this step's time
    stamps `ets`, is shorter than the reader's limit (of the whole log, because `plan` and `compact` write it all anew) -/
inductive FileLog (limit : Nat) : List Event → Bytes → Prop where
  | init : FileLog limit [] []
  | step {log : List Event} {f : Bytes} (env : Env) (req : Request) (ets : Event → String) :
      FileLog limit log f → EnvT env →
      (∀ e ∈ (runCmd log env req).log, (encodeEvent ets e).length < limit) →
      FileLog limit (runCmd log env req).log (fileAfter ets f (runCmd log env req).write)

theorem fileLog_reads {limit : Nat} {log : List Event} {f : Bytes} (h : FileLog limit log f) :
    readEvents classifyLine limit f = .ok log ∧ AllWf log := by
  induction h with
  | init => exact ⟨readEvents_nil, allWf_nil⟩
  | @step log f env req ets _ henv hlen ih =>
    obtain ⟨hr, hw⟩ := ih
    have hw' := runCmd_wf log hw env henv req
    refine ⟨?_, hw'⟩
    rcases runCmd_cases log env req with ⟨hlog, hwr, -⟩ | ⟨sec, w, out, -, -, hres⟩
    · rw [hlog, hwr]; exact hr
    · rw [hres] at hw' hlen ⊢
      cases w with
      | append evs =>
        exact (appendFile_reads (jsonCodec ets) hr <|
          short_of_wf ets limit evs (List.forall_mem_append.1 hw').2 (List.forall_mem_append.1 hlen).2).1
      | replace evs => exact readEvents_linesOf (jsonCodec ets) (short_of_wf ets limit evs hw' hlen)

end Ergo.Codec
