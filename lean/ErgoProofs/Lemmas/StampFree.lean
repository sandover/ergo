/-
  What an item is — state, claimant, title, body, epic, results and their order, edges, pruned ids — follows from the order of the log's
  lines, never from the values of their time stamps: the same events with any other stamps replay to the same graph up to the clock
  readings stored in it, or fail alike (`replay_stamp_free`).  (Preferring "the newer stamp" to "the later line" would decide differently
  on a log merged from a clock that runs ahead, or after the clock was set back.)  One query does read a stored reading: `readyTasks`
  sorts by `created_at` (`claimLe`).  `isReady` reads states, claimants, epics and edges only, but the order in which `claim` hands the
  ready tasks out is not the same for all `SameLines` logs (two `newItem` lines stamped 1, 2 or 2, 1 come out in opposite orders).
-/
import ErgoProofs.Lemmas.Basics
import ErgoProofs.Lemmas.OkAll
namespace Ergo

def Task.untimed (t : Task) : Task :=
  { t with createdAt := 0, updatedAt := 0, lastState := 0, lastClaim := 0, lastTitle := 0, lastBody := 0, lastEpic := 0,
           results := t.results.map fun r => { r with time := 0 } }

def Graph.untimed (g : Graph) : Graph := { g with tasks := g.tasks.map Task.untimed }

/-- the same event with another stamp (one that did not parse still does not) -/
def Event.restamp (f : Time → Time) : Event → Event
  | .newItem isEpic id uuid epicId st ttl bdy c => .newItem isEpic id uuid epicId st ttl bdy (c.map f)
  | .state id st ts => .state id st (ts.map f)
  | .claim id a ts => .claim id a (ts.map f)
  | .title id s ts => .title id s (ts.map f)
  | .body id s ts => .body id s (ts.map f)
  | .epic id e ts => .epic id e (ts.map f)
  | .tombstone id a ts => .tombstone id a (ts.map f)
  | .result t s p sha m g ts => .result t s p sha m g (ts.map f)
  | e => e

/-- the same events line by line, every stamp that parsed replaced by an arbitrary one (a function of the old one, per line) -/
inductive SameLines : List Event → List Event → Prop where
  | nil : SameLines [] []
  | cons (f : Time → Time) {e : Event} {l l' : List Event} : SameLines l l' → SameLines (e :: l) (e.restamp f :: l')

abbrev noStamp : Time → Time := fun _ => 0

@[simp] theorem Task.untimed_id (t : Task) : t.untimed.id = t.id := rfl

theorem restamp_restamp (f h : Time → Time) (e : Event) : (e.restamp f).restamp h = e.restamp (h ∘ f) := by
  cases e <;> simp [Event.restamp, Option.map_map]

theorem untimed_has (g : Graph) (id : Id) : g.untimed.has id = g.has id := Graph.map_has g Task.untimed Task.untimed_id id

theorem untimed_find (g : Graph) (id : Id) : g.untimed.find? id = (g.find? id).map Task.untimed :=
  Graph.map_find? g Task.untimed Task.untimed_id id

theorem update_untimed (g : Graph) (id : Id) (u F : Task → Task) (hF : ∀ k, (u k).untimed = F k.untimed) :
    (g.update id u).untimed = g.untimed.update id F := by
  simp only [Graph.update, Graph.untimed, List.map_map]
  congr 1
  -- `untimed` goes into the two branches; the test reads the id, which `untimed` keeps
  exact List.map_congr_left fun t _ => (apply_ite Task.untimed ..).trans (hF t ▸ rfl)

theorem withLive_untimed (g : Graph) (id : Id) (ts : Option Time) (u : Task → Time → Task)
    (hu : ∀ k t, (u k t).untimed = u k.untimed 0) :
    (withLive g id ts u).map Graph.untimed = withLive g.untimed id (ts.map noStamp) u := by
  unfold withLive
  rw [untimed_has, show g.untimed.tombed id = g.tombed id from rfl]
  split
  · rfl
  · split
    · rfl
    · cases ts with
      | none => rfl
      | some t => exact congrArg Except.ok (update_untimed g id _ _ fun k => hu k t)

theorem applyTombstone_untimed (g : Graph) (id : Id) : (applyTombstone g id).untimed = applyTombstone g.untimed id := by
  simp only [applyTombstone, Graph.untimed, List.filter_map]
  congr 1

theorem applyEvent_untimed (g : Graph) (e : Event) :
    (applyEvent g e).map Graph.untimed = applyEvent g.untimed (e.restamp noStamp) := by
  cases e with
  | newItem isEpic id uuid epicId st ttl bdy c =>
    -- `Except.map` goes into the branches; the tests on `g.untimed` are those on `g`, by computation except for `has`
    cases c <;> simp only [applyEvent, Event.restamp, Option.map, untimed_has, apply_ite (Except.map Graph.untimed)]
    · rfl
    · simp only [Except.map, Graph.untimed, List.map_append]; rfl
  | state id _ ts | claim id _ ts | title id _ ts | body id _ ts | epic id _ ts | result id _ _ _ _ _ ts =>
    exact withLive_untimed g id ts _ fun _ _ => rfl
  | unclaim id =>
    simp only [applyEvent, Event.restamp, apply_ite (Except.map Graph.untimed)]
    exact congrArg (ite _ _) (congrArg Except.ok (update_untimed g id _ _ fun _ => rfl))
  | link a b dep => simp only [applyEvent, Event.restamp, apply_ite (Except.map Graph.untimed)]; rfl
  | unlink a b dep => simp only [applyEvent, Event.restamp, apply_ite (Except.map Graph.untimed)]; rfl
  | tombstone id a ts =>
    cases ts with
    | none => rfl
    | some t => exact congrArg Except.ok (applyTombstone_untimed g id)
  | ignored => rfl
  | badData => rfl

theorem foldlM_untimed (l : List Event) (g : Graph) :
    (l.foldlM applyEvent g).map Graph.untimed = (l.map (Event.restamp noStamp)).foldlM applyEvent g.untimed := by
  induction l generalizing g with
  | nil => rfl
  | cons e l ih =>
    rw [List.map_cons, List.foldlM_cons, List.foldlM_cons, ← applyEvent_untimed]
    cases applyEvent g e with
    | error x => rfl
    | ok g1 => exact ih g1

theorem sameLines_forget {l l' : List Event} (h : SameLines l l') : l.map (Event.restamp noStamp) = l'.map (Event.restamp noStamp) := by
  induction h with
  | nil => rfl
  | cons f _ ih => rw [List.map_cons, List.map_cons, ih, restamp_restamp]; rfl

theorem migrate_untimed (g : Graph) : (migrate g).untimed = migrate g.untimed := by
  have h : ∀ t : Task, (migrateTask t).untimed = migrateTask t.untimed := fun t => by
    unfold migrateTask
    show Task.untimed (if Text.isBlank t.title then _ else _) = if Text.isBlank t.title then _ else _
    split <;> rfl
  simp only [migrate, Graph.untimed, List.map_map, Function.comp_def, h]

theorem replay_untimed (l : List Event) : (replay l).map Graph.untimed = replay (l.map (Event.restamp noStamp)) := by
  have h : _ = (l.map (Event.restamp noStamp)).foldlM applyEvent Graph.empty := foldlM_untimed l Graph.empty
  rw [replay, replay, replayRaw, replayRaw, ← h]
  cases l.foldlM applyEvent Graph.empty with
  | error x => rfl
  | ok g => exact congrArg Except.ok (migrate_untimed g)

theorem replay_stamp_free {l l' : List Event} (hl : SameLines l l') :
    (replay l).map Graph.untimed = (replay l').map Graph.untimed := by
  rw [replay_untimed, replay_untimed, sameLines_forget hl]

theorem stamp_free_graph {l l' : List Event} (hl : SameLines l l') {g g' : Graph} (hr : replay l = .ok g) (hr' : replay l' = .ok g') :
    g.untimed = g'.untimed := by
  have h := replay_stamp_free hl
  rw [hr, hr'] at h
  exact Except.ok.inj h

theorem stamp_free_find_map {α : Type} (F : Task → α) (hF : ∀ t, F t.untimed = F t) {l l' : List Event} (hl : SameLines l l')
    {g g' : Graph} (hr : replay l = .ok g) (hr' : replay l' = .ok g') (id : Id) : (g.find? id).map F = (g'.find? id).map F := by
  have := congrArg (fun g => (g.find? id).map F) (stamp_free_graph hl hr hr')
  simpa only [untimed_find, Option.map_map, Function.comp_def, hF] using this

theorem stamp_free_ok {l l' : List Event} (hl : SameLines l l') {g : Graph} (hr : replay l = .ok g) : ∃ g', replay l' = .ok g' :=
  let ⟨g', h, _⟩ := map_ok ((replay_stamp_free hl).symm.trans (congrArg (Except.map Graph.untimed) hr))
  ⟨g', h⟩

end Ergo
