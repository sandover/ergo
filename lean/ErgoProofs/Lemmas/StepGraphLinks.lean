/-
  `Sec.links` (the `sequence` command): what `linkCheck` accepted of one edge, what `linkEvents` accepted of all of them and the events
  it returned, and, with the fold lemmas of StepGraphBase, the graph after the section with its `AllInv` (`runSec_links_spec`).
-/
import ErgoProofs.Lemmas.Sections
import ErgoProofs.Lemmas.StepGraphBase
namespace Ergo

theorem linkCheck_ok {g : Graph} {unlink : Bool} {f t : Id} :
    OkAll (fun _ => g.tombed f = false ∧ g.tombed t = false ∧
      (∃ a b, g.find? f = some a ∧ g.find? t = some b ∧ a.isEpic = b.isEpic) ∧ f ≠ t ∧
      (unlink = false → ¬ Path g.deps t f)) (linkCheck g unlink f t) := by
  unfold linkCheck
  simp only [pure, Except.pure, throw, throwThe, MonadExceptOf.throw]
  refine .ite (fun _ => .error) fun hf => .ite (fun _ => .error) fun ht => ?_
  cases hfi : g.find? f with
  | none => exact .error
  | some fi =>
    cases hti : g.find? t with
    | none => exact .error
    | some ti =>
      refine .ite (fun _ => .error) fun hne => .ite (fun _ => .error) fun hk => .ite (fun _ => .error) fun hc => .ok ?_
      refine ⟨by simpa using hf, by simpa using ht, ⟨fi, ti, rfl, rfl, by simpa using hk⟩, by simpa using hne,
        fun hu hp => hc ?_⟩
      simp only [hu, Bool.not_false, Bool.true_and]
      exact (hasCycle_iff g f t).2 (.inr hp)

/-- what `AllInv` needs of an accepted edge -/
theorem linkCheck_live {g : Graph} {unlink : Bool} {f t : Id} {u : Unit} (h : linkCheck g unlink f t = .ok u) :
    g.tombed f = false ∧ g.tombed t = false ∧ ∃ a ∈ g.tasks, ∃ b ∈ g.tasks, a.id = f ∧ b.id = t ∧ a.isEpic = b.isEpic := by
  obtain ⟨h1, h2, ⟨a, b, ha, hb, hk⟩, -⟩ := linkCheck_ok _ h
  obtain ⟨ham, rfl⟩ := Graph.mem_of_find? ha
  obtain ⟨hbm, rfl⟩ := Graph.mem_of_find? hb
  exact ⟨h1, h2, a, ham, b, hbm, rfl, rfl, hk⟩

theorem linkEvents_link_ok {edges : List (Id × Id)} : ∀ {g : Graph}, Acyclic g.deps →
    OkAll (fun evs => evs = edges.map (fun e => Event.link e.1 e.2 true) ∧ Acyclic (g.deps ++ edges) ∧
      ∀ e ∈ edges, g.tombed e.1 = false ∧ g.tombed e.2 = false ∧
        ∃ a ∈ g.tasks, ∃ b ∈ g.tasks, a.id = e.1 ∧ b.id = e.2 ∧ a.isEpic = b.isEpic) (linkEvents g false edges) := by
  induction edges with
  | nil => exact fun hac => .ok ⟨rfl, by simpa using hac, by simp⟩
  | cons e es ih =>
    intro g hac
    unfold linkEvents
    refine .bind fun u hc => .bind fun evs' hr => .ok ?_
    obtain ⟨-, -, -, -, hnp⟩ := linkCheck_ok _ hc
    obtain ⟨rfl, i2, i3⟩ := ih (acyclic_add_edge hac (hnp rfl)) _ hr
    exact ⟨rfl, by simpa using i2, List.forall_mem_cons.2 ⟨linkCheck_live hc, i3⟩⟩

theorem linkEvents_unlink_ok {g : Graph} {edges : List (Id × Id)} :
    OkAll (fun evs => evs = edges.map (fun e => Event.unlink e.1 e.2 true) ∧ ∀ e ∈ edges, g.tombed e.1 = false ∧ g.tombed e.2 = false)
      (linkEvents g true edges) := by
  induction edges with
  | nil => exact .ok ⟨rfl, by simp⟩
  | cons e es ih =>
    unfold linkEvents
    refine .bind fun u hc => .bind fun evs' hr => .ok ?_
    obtain ⟨rfl, i2⟩ := ih _ hr
    exact ⟨rfl, List.forall_mem_cons.2 ⟨⟨(linkCheck_ok _ hc).1, (linkCheck_ok _ hc).2.1⟩, i2⟩⟩

theorem runSec_links_spec {log : List Event} {g : Graph} {env : Env} {unlink : Bool} {edges : List (Id × Id)} {w : Write}
    {out : SecOut} (hr : replayRaw log = .ok g) (hinv : AllInv g) (hrun : runSec log env (.links unlink edges) = .ok (w, out)) :
    ∃ g', replayRaw (applyWrite log w) = .ok g' ∧ AllInv g' ∧ g'.tasks = g.tasks ∧ g'.tombs = g.tombs ∧
      ∀ e, e ∈ g'.deps ↔ if unlink then e ∈ g.deps ∧ e ∉ edges else e ∈ g.deps ∨ e ∈ edges := by
  obtain ⟨g0, hrep, (hs : secLinks g0 unlink edges = .ok w)⟩ := runSec_ok _ hrun
  cases (replay_eq_raw hr hinv.ok).symm.trans hrep
  obtain ⟨evs, hl, rfl⟩ := map_ok hs
  cases unlink with
  | false =>
    obtain ⟨rfl, h2, h3⟩ := linkEvents_link_ok hinv.i07.acyclic _ hl
    obtain ⟨g', h1, h⟩ := allInv_add_links hinv edges h2 h3
    exact ⟨g', replayRaw_applyAppend hr h1, h⟩
  | true =>
    obtain ⟨rfl, h2⟩ := linkEvents_unlink_ok _ hl
    obtain ⟨g', h1, e2, e3, e4⟩ := foldlM_unlinks g edges h2
    exact ⟨g', replayRaw_applyAppend hr h1, hinv.of_deps (foldlM_WF hinv.ok.wf h1) e2
      (acyclic_sub hinv.i07.acyclic fun e he => ((e4 e).1 he).1) (fun e he => .inl ((e4 e).1 he).1), e2, e3, e4⟩

theorem secStep_links (unlink : Bool) (edges : List (Id × Id)) : SecStepOK (.links unlink edges) :=
  fun _ _ _ _ _ hr hinv _ hrun => let ⟨g', h1, h2, _⟩ := runSec_links_spec hr hinv hrun; ⟨g', h1, h2⟩

end Ergo
