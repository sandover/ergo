/-
  Objects of the line codec: the scanner delimits the members of an encoded object exactly (`members_encoded`, `parseTop_encObj`),
  encoded values are skipped exactly with any continuation (`Val`), and field lookup on the members found (`strFold_*`, `getRaw_cons`).
-/
import ErgoProofs.Lemmas.CodecStr
open Ergo Ergo.Storage
namespace Ergo.Codec

theorem encStr_eq (s : String) : encStr s = 34 :: (rawOf s ++ [34]) := by
  simp [encStr, Json.encodeString, rawOf, utf8Enc, (by decide : String.utf8EncodeChar '"' = [34])]

theorem unquote_rawOf (s : String) : unquote (rawOf s) = s.toList := by
  simp [unquote, rawOf, utf8DecLossy_encoded, Json.decodeBody_encodeBody]

theorem strVal_encStr (s : String) : strVal (encStr s) = s := by
  simp [strVal, encStr_eq, unquote_rawOf]

theorem valKind_encStr (s : String) : valKind (encStr s) = .str := by simp [valKind, encStr_eq]

theorem isWs_false_of_ge (b : UInt8) (h : 33 ≤ b) : isWs b = false := by
  have := UInt8.le_iff_toNat_le.1 h
  simp only [isWs, decide_eq_false_iff_not, not_or]
  refine ⟨?_, ?_, ?_, ?_⟩ <;> (intro h0; subst h0; simp at this)

theorem skipWs_cons_of (b : UInt8) (r : Bytes) (h : isWs b = false) : skipWs (b :: r) = b :: r := by simp [skipWs, h]

theorem fuel_succ {n f : Nat} (h : n + 1 ≤ f) : ∃ g, f = g + 1 ∧ n ≤ g := ⟨f - 1, by omega⟩

/-- a value text, no white space in front, that the scanner skips exactly, with any continuation, given fuel `f0`. The two fields are all
    that is recorded: that `v` is not empty, or does not begin with `]`, follows from `skip` only by unfolding `skipValue` -/
structure Val (f0 d : Nat) (v : Bytes) : Prop where
  start : ∀ rest, skipWs (v ++ rest) = v ++ rest
  skip : ∀ f, f0 ≤ f → ∀ rest, skipValue f d (v ++ rest) = some rest

theorem Val.mono {f0 f1 d : Nat} {v : Bytes} (h : Val f0 d v) (hle : f0 ≤ f1) : Val f1 d v :=
  ⟨h.start, fun f hf rest => h.skip f (by omega) rest⟩

theorem val_encStr (s : String) (d : Nat) : Val 1 d (encStr s) := by
  refine ⟨fun _ => by rw [encStr_eq]; rfl, fun f hf rest => ?_⟩
  obtain ⟨f, rfl, -⟩ := fuel_succ (n := 0) hf
  rw [encStr_eq]
  simp [skipValue, scanStr_rawOf]

theorem val_null (d : Nat) : Val 1 d [110, 117, 108, 108] := by
  refine ⟨fun _ => rfl, fun f hf rest => ?_⟩
  obtain ⟨f, rfl, -⟩ := fuel_succ (n := 0) hf
  simp [skipValue, lit]

/-- the text `members` records (see `take_consumed`) when exactly `v` was consumed -/
theorem consumed_eq (v tail : Bytes) : (v ++ tail).take ((v ++ tail).length - tail.length) = v := by
  simp

/-- the encoded members `"k1":v1,"k2":v2,…` -/
def encMembers (kvs : List (String × Bytes)) : Bytes := joinComma (kvs.map fun kv => encStr kv.1 ++ 58 :: kv.2)

theorem encMembers_cons_cons (a b : String × Bytes) (r : List (String × Bytes)) :
    encMembers (a :: b :: r) = encStr a.1 ++ 58 :: a.2 ++ 44 :: encMembers (b :: r) := by
  simp [encMembers, joinComma]

theorem encMembers_single (a : String × Bytes) : encMembers [a] = encStr a.1 ++ 58 :: a.2 := by simp [encMembers, joinComma]

/-- one member `"k":v` and the byte after it: `,` goes on, `}` ends the object -/
theorem members_step (d f0 : Nat) (k : String) (v : Bytes) (hv : Val f0 d v) (f : Nat) (hf : f0 ≤ f) (e : UInt8) (r4 : Bytes)
    (he : isWs e = false) :
    members (f + 1) d (encStr k ++ 58 :: v ++ e :: r4) =
      (if e = 44 then (members f d r4).map fun p => ((rawOf k, v) :: p.1, p.2)
       else if e = 125 then some ([(rawOf k, v)], r4) else none) := by
  rw [encStr_eq]
  simp only [List.cons_append, List.append_assoc, List.nil_append, members, skipWs_cons_of 34 _ (by decide), scanStr_rawOf,
    skipWs_cons_of 58 _ (by decide), hv.start, hv.skip f hf, consumed_eq, skipWs_cons_of e _ he, ne_eq, not_true_eq_false, if_false]

theorem members_encoded (d f0 : Nat) (kvs : List (String × Bytes)) (hne : kvs ≠ []) (hv : ∀ kv ∈ kvs, Val f0 d kv.2) (f : Nat)
    (hf : f0 + kvs.length ≤ f) (rest : Bytes) :
    members f d (encMembers kvs ++ 125 :: rest) = some (kvs.map fun kv => (rawOf kv.1, kv.2), rest) := by
  induction kvs generalizing f with
  | nil => exact absurd rfl hne
  | cons a r ih =>
    obtain ⟨f, rfl, hle⟩ := fuel_succ (n := f0 + r.length) hf
    have ha := members_step d f0 a.1 a.2 (hv a (by simp)) f (by omega)
    cases r with
    | nil => rw [encMembers_single, ha 125 rest (by decide)]; rfl
    | cons b r' =>
      rw [encMembers_cons_cons, List.append_assoc, List.cons_append, ha 44 _ (by decide), if_pos rfl,
        ih (by simp) (fun kv hk => hv kv (by simp [hk])) f hle]
      rfl

theorem encMembers_head (kvs : List (String × Bytes)) (hne : kvs ≠ []) : ∃ t, encMembers kvs = 34 :: t := by
  cases kvs with
  | nil => exact absurd rfl hne
  | cons a r =>
    cases r with
    | nil => exact ⟨_, by rw [encMembers_single, encStr_eq]; rfl⟩
    | cons b r' => exact ⟨_, by rw [encMembers_cons_cons, encStr_eq]; rfl⟩

theorem encObj_eq (kvs : List (String × Bytes)) : encObj kvs = 123 :: (encMembers kvs ++ [125]) := rfl

theorem val_encObj (d f0 : Nat) (kvs : List (String × Bytes)) (hv : ∀ kv ∈ kvs, Val f0 d kv.2) :
    Val (f0 + kvs.length + 1) (d + 1) (encObj kvs) := by
  refine ⟨fun _ => rfl, fun f hf rest => ?_⟩
  obtain ⟨f, rfl, hle⟩ := fuel_succ hf
  by_cases hne : kvs = []
  · subst hne; simp [encObj, joinComma, skipValue, skipWs, isWs]   -- `{}`
  obtain ⟨t, ht⟩ := encMembers_head kvs hne
  have hm := members_encoded d f0 kvs hne hv f hle rest
  rw [ht, List.cons_append] at hm
  rw [encObj_eq, ht]
  simp [skipValue, skipWs, isWs, hm]

/-- `FUEL` is far above what any line needs; 1000 here (999 where `val_encObj` adds one), 100 and 20 in the users are round numbers that
    are big enough; 7 is exact: no payload and no stdin document has more fields -/
theorem FUEL_ge (n : Nat) (h : n ≤ 1000) : n ≤ FUEL := by unfold FUEL; omega

theorem parseTop_encObj (f0 : Nat) (kvs : List (String × Bytes)) (hv : ∀ kv ∈ kvs, Val f0 (DEPTH - 1) kv.2)
    (hf : f0 + kvs.length ≤ 1000) :
    parseTop (encObj kvs) = .obj (kvs.map fun kv => (rawOf kv.1, kv.2)) := by
  by_cases hne : kvs = []
  · subst hne; rfl
  obtain ⟨t, ht⟩ := encMembers_head kvs hne
  have hm := members_encoded _ f0 kvs hne hv FUEL (FUEL_ge _ hf) []
  rw [ht, List.cons_append] at hm
  rw [encObj_eq, ht]
  simp [parseTop, skipWs, isWs, hm]

def foldKey (s : String) : List Char := s.toList.map foldChar

theorem keyMatches_rawOf (k name : String) : keyMatches (rawOf k) name = decide (foldKey k = foldKey name) := by
  unfold keyMatches foldKey; rw [unquote_rawOf]

def strStep (name : String) (acc : Option String) (m : Bytes × Bytes) : Option String :=
  match acc with
  | none => none
  | some cur =>
    if keyMatches m.1 name then
      match valKind m.2 with
      | .str => some (strVal m.2)
      | .null => some cur
      | .other => none
    else some cur

theorem getStr_eq (ms : List (Bytes × Bytes)) (name : String) : getStr ms name = ms.foldl (strStep name) (some "") := rfl

theorem strFold_nil (name : String) (acc : Option String) : ([] : List (Bytes × Bytes)).foldl (strStep name) acc = acc := rfl

theorem strFold_str (name k s : String) (cur : String) (ms : List (Bytes × Bytes)) :
    ((rawOf k, encStr s) :: ms).foldl (strStep name) (some cur) =
      ms.foldl (strStep name) (some (if foldKey k = foldKey name then s else cur)) := by
  simp only [List.foldl_cons, strStep, keyMatches_rawOf, valKind_encStr, strVal_encStr]
  by_cases h : foldKey k = foldKey name <;> simp [h]

theorem strFold_skip (name k : String) (v : Bytes) (cur : String) (ms : List (Bytes × Bytes)) (h : foldKey k ≠ foldKey name) :
    ((rawOf k, v) :: ms).foldl (strStep name) (some cur) = ms.foldl (strStep name) (some cur) := by
  simp [List.foldl_cons, strStep, keyMatches_rawOf, h]

theorem getRaw_cons (name k : String) (v : Bytes) (acc : Option Bytes) (ms : List (Bytes × Bytes)) :
    ((rawOf k, v) :: ms).foldl (fun acc m => if keyMatches m.1 name then some m.2 else acc) acc =
      ms.foldl (fun acc m => if keyMatches m.1 name then some m.2 else acc) (if foldKey k = foldKey name then some v else acc) := by
  simp only [List.foldl_cons, keyMatches_rawOf]
  by_cases h : foldKey k = foldKey name <;> simp [h]

end Ergo.Codec
