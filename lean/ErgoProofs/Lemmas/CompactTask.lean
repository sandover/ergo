/-
  C05, one item: the block `compactTask t` with its parts named (`compactTask_eq`) and what replaying it makes of the item, as a fold
  (`rebuild`) and written out (`rebuildX`), equal by `rebuild_eq`.
-/
import ErgoProofs.Lemmas.TaskStep
namespace Ergo

def cStOf (t : Task) : St := if t.cSt != .other "" then t.cSt else t.st
def cTitleOf (t : Task) : String := if t.cTitle != "" then t.cTitle else t.title
def cBodyOf (t : Task) : String := if t.cBody != "" then t.cBody else t.body

def emitTitle (t : Task) : Bool := t.title != cTitleOf t || (t.lastTitle != 0 && t.lastTitle > t.createdAt)
def emitBody (t : Task) : Bool := t.body != cBodyOf t || (t.lastBody != 0 && t.lastBody > t.createdAt)
def emitEpic (t : Task) : Bool := !t.isEpic && (t.epicId != t.cEpic || (t.lastEpic != 0 && t.lastEpic > t.createdAt))
def emitClaim (t : Task) : Bool := t.claimedBy != ""
def emitState (t : Task) : Bool := t.st != cStOf t || (t.lastState != 0 && t.lastState > t.createdAt)

/-- the item that the `newItem` event of the block creates (`newTask_created`) -/
def created (t : Task) : Task :=
  { id := t.id, uuid := t.uuid, epicId := t.cEpic, isEpic := t.isEpic, st := cStOf t, title := cTitleOf t, body := cBodyOf t,
    claimedBy := "", createdAt := t.createdAt, updatedAt := t.createdAt,
    results := [], cTitle := cTitleOf t, cBody := cBodyOf t, cSt := cStOf t, cEpic := t.cEpic,
    lastState := 0, lastClaim := 0, lastTitle := 0, lastBody := 0, lastEpic := 0 }

theorem newTask_created (t : Task) :
    newTask t.isEpic t.id t.uuid t.cEpic (cStOf t) (cTitleOf t) (cBodyOf t) t.createdAt = created t := rfl

def resEv (id : Id) (r : ResultRec) : Event := Event.result id r.summary r.path r.sha r.mtime r.git (some r.time)

def updEvents (t : Task) : List Event :=
  (if emitTitle t then [Event.title t.id t.title (some (pickTime t.lastTitle t.updatedAt))] else [])
  ++ (if emitBody t then [Event.body t.id t.body (some (pickTime t.lastBody t.updatedAt))] else [])
  ++ (if emitEpic t then [Event.epic t.id t.epicId (some (pickTime t.lastEpic t.updatedAt))] else [])
  ++ (if emitState t then [Event.state t.id t.st (some (pickTime t.lastState t.updatedAt))] else [])
  ++ (if emitClaim t then [Event.claim t.id t.claimedBy (some (pickTime t.lastClaim t.updatedAt))] else [])
  ++ t.results.reverse.map (resEv t.id)

theorem compactTask_eq (t : Task) :
    compactTask t = Event.newItem t.isEpic t.id t.uuid t.cEpic (cStOf t) (cTitleOf t) (cBodyOf t) (some t.createdAt) :: updEvents t := by
  simp only [compactTask, List.append_assoc, List.cons_append, List.nil_append, updEvents]
  rfl

theorem updEvents_isUpdate (t : Task) : ∀ e ∈ updEvents t, IsUpdateFor t.id e := by
  have opt : ∀ {c : Bool} {e : Event}, IsUpdateFor t.id e → ∀ x ∈ (if c then [e] else []), IsUpdateFor t.id x := by
    intro c e h x hx
    cases c
    · cases hx
    · exact List.mem_singleton.1 hx ▸ h
  simp only [updEvents, List.forall_mem_append]
  exact ⟨⟨⟨⟨⟨opt rfl, opt rfl⟩, opt rfl⟩, opt rfl⟩, opt rfl⟩, fun e he => let ⟨r, _, h⟩ := List.mem_map.1 he; h ▸ rfl⟩

def optT (c : Bool) (x : Time) : Time := if c then x else 0

def rebuild (t : Task) : Task := (updEvents t).foldl stepTask (created t)

def rebuildX (t : Task) : Task :=
  { id := t.id, uuid := t.uuid, epicId := if emitEpic t then t.epicId else t.cEpic, isEpic := t.isEpic,
    st := t.st, title := t.title, body := t.body,
    claimedBy := t.claimedBy,
    createdAt := t.createdAt,
    updatedAt := (t.results.reverse.map (·.time)).foldl maxTime
      (maxTime (maxTime (maxTime (maxTime t.createdAt (optT (emitTitle t) (pickTime t.lastTitle t.updatedAt)))
        (optT (emitBody t) (pickTime t.lastBody t.updatedAt))) (optT (emitEpic t) (pickTime t.lastEpic t.updatedAt)))
        (optT (emitState t) (pickTime t.lastState t.updatedAt))),
    results := t.results, cTitle := cTitleOf t, cBody := cBodyOf t, cSt := cStOf t, cEpic := t.cEpic,
    lastState := optT (emitState t) (pickTime t.lastState t.updatedAt),
    lastClaim := optT (emitClaim t) (pickTime t.lastClaim t.updatedAt),
    lastTitle := optT (emitTitle t) (pickTime t.lastTitle t.updatedAt),
    lastBody := optT (emitBody t) (pickTime t.lastBody t.updatedAt),
    lastEpic := optT (emitEpic t) (pickTime t.lastEpic t.updatedAt) }

theorem foldl_results (id : Id) (l : List ResultRec) (k : Task) :
    (l.map (resEv id)).foldl stepTask k =
      { k with results := l.reverse ++ k.results, updatedAt := (l.map (·.time)).foldl maxTime k.updatedAt } := by
  induction l generalizing k with
  | nil => rfl
  | cons r l ih =>
    simp only [List.map_cons, List.foldl_cons, ih, List.reverse_cons, List.append_assoc]
    simp [resEv, stepTask]

/-- a field that is not re-emitted still has its creation value (the shape of `emitTitle`, `emitBody`, `emitState`, and of `emitEpic` for a task) -/
theorem eq_of_not_emit {α : Type} [DecidableEq α] {a c : α} {r : Bool} (h : ¬ (a != c || r) = true) : c = a := by
  simp only [Bool.or_eq_true, not_or, bne_iff_ne, ne_eq, Decidable.not_not] at h
  exact h.1.symm

/-- an optional event as one record update: the flag decides each field, `optT` the stamp -/
theorem foldl_optTitle (c : Bool) (k : Task) (id : Id) (s : String) (x : Time) :
    (if c then [Event.title id s (some x)] else []).foldl stepTask k =
      { k with title := if c then s else k.title, updatedAt := maxTime k.updatedAt (optT c x),
               lastTitle := if c then x else k.lastTitle } := by
  cases c <;> simp [stepTask, optT, maxTime_zero]
theorem foldl_optBody (c : Bool) (k : Task) (id : Id) (s : String) (x : Time) :
    (if c then [Event.body id s (some x)] else []).foldl stepTask k =
      { k with body := if c then s else k.body, updatedAt := maxTime k.updatedAt (optT c x),
               lastBody := if c then x else k.lastBody } := by
  cases c <;> simp [stepTask, optT, maxTime_zero]
theorem foldl_optEpic (c : Bool) (k : Task) (id : Id) (s : String) (x : Time) :
    (if c then [Event.epic id s (some x)] else []).foldl stepTask k =
      { k with epicId := if c then s else k.epicId, updatedAt := maxTime k.updatedAt (optT c x),
               lastEpic := if c then x else k.lastEpic } := by
  cases c <;> simp [stepTask, optT, maxTime_zero]
theorem foldl_optState (c : Bool) (k : Task) (id : Id) (s : St) (x : Time) :
    (if c then [Event.state id s (some x)] else []).foldl stepTask k =
      { k with st := if c then s else k.st, updatedAt := maxTime k.updatedAt (optT c x),
               claimedBy := if c && s.clearsClaim then "" else k.claimedBy,
               lastState := if c then x else k.lastState } := by
  cases c <;> simp [stepTask, optT, maxTime_zero]
theorem foldl_optClaim (c : Bool) (k : Task) (id : Id) (s : String) (x : Time) :
    (if c then [Event.claim id s (some x)] else []).foldl stepTask k =
      { k with claimedBy := if c then s else k.claimedBy, lastClaim := if c then x else k.lastClaim } := by
  cases c <;> simp [stepTask]

theorem rebuild_eq (t : Task) : rebuild t = rebuildX t := by
  simp only [rebuild, updEvents, List.foldl_append, foldl_optTitle, foldl_optBody, foldl_optEpic, foldl_optState, foldl_optClaim,
    foldl_results, created, rebuildX, Task.mk.injEq, List.reverse_reverse, List.append_nil, true_and, and_true, optT]
  -- four fields are left: `st`, `title`, `body` (re-emitted, or still at their creation value) and `claimedBy` (the claim event,
  -- replayed after the state event, decides it)
  refine ⟨ite_eq_left_iff.2 eq_of_not_emit, ite_eq_left_iff.2 eq_of_not_emit, ite_eq_left_iff.2 eq_of_not_emit, ?_⟩
  simp only [ite_self, emitClaim, bne_iff_ne, ne_eq, ite_not]
  split
  · exact Eq.symm ‹_›
  · rfl
end Ergo
