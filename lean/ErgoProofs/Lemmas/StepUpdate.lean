/-
  The lock sections that create an item or update one — `Sec.create`, `Sec.update`, `Sec.claimOldest` (`runSec`, ErgoModel/Exec.lean;
  `secCreate`, `secUpdate`, `secClaimOldest`, ErgoModel/Command.lean): what a successful run wrote and the graph afterwards
  (`runSec_…_spec`), hence that `AllInv` is kept (`secStep_…`).
-/
import ErgoProofs.Lemmas.StepUpdateTask
import ErgoProofs.Lemmas.StepFresh
import ErgoProofs.Lemmas.Ready
namespace Ergo

theorem runSec_update_spec {log : List Event} {g : Graph} {env : Env} {id : Id} {r : SetReq} {w : Write} {out : SecOut}
    (hr : replayRaw log = .ok g) (h : AllInv g) (hrun : runSec log env (.update id r) = .ok (w, out)) :
    ∃ t evs, g.find? id = some t ∧ updateEvents g t r env.agent env.po env.now = .ok evs ∧ w = .append evs ∧
      replayRaw (applyWrite log w) = .ok (g.update id fun k => evs.foldl stepTask k) ∧
      (EnvOK g env → AllInv (g.update id fun k => evs.foldl stepTask k)) := by
  obtain ⟨g', hrep, hs⟩ := runSec_ok _ hrun
  cases (replay_eq_raw hr h.ok).symm.trans hrep
  obtain ⟨htomb, t, evs, hfind, hu, rfl⟩ := secUpdate_ok _ hs
  obtain ⟨htm, rfl⟩ := Graph.mem_of_find? hfind
  have hset := updateEvents_mem hu
  obtain ⟨hR, hinv⟩ := updateEvents_task hu (h.i06 t htm)
  refine ⟨t, evs, hfind, hu, rfl, replayRaw_applyAppend hr
    (foldlM_updates g t.id evs htomb fun e he => (hset e he).isUpdateFor), fun henv => ?_⟩
  have hnow := now_mem_times henv.enough
  exact h.updates hfind (henv.pos _ hnow) (henv.later t htm _ (by simp [Task.times]) _ hnow)
    (fun _ hx => hx) (h.i14 t htm).2 hR hset hinv

theorem secStep_update (id : Id) (r : SetReq) : SecStepOK (.update id r) := fun _ _ _ _ _ hr h henv hrun =>
  let ⟨_, _, _, _, _, h1, h2⟩ := runSec_update_spec hr h hrun
  ⟨_, h1, h2 henv⟩

theorem runSec_create_spec {log : List Event} {g : Graph} {env : Env} {isEpic : Bool} {epicId title body : String} {follow : SetReq}
    {w : Write} {out : SecOut} (hr : replayRaw log = .ok g) (h : AllInv g)
    (hrun : runSec log env (.create isEpic epicId title body follow) = .ok (w, out)) :
    ∃ id more, id ∈ env.ids ∧ g.has id = false ∧ g.tombed id = false ∧ out.created = some id ∧
      let x := freshTask isEpic id (env.uuids.headD "") (if isEpic then "" else epicId) title body env.now
      let g' : Graph := { g with tasks := g.tasks ++ [more.foldl stepTask x] }
      w = .append (evOf x :: more) ∧ updateEvents g x follow env.agent env.po env.now = .ok more ∧
      replayRaw (applyWrite log w) = .ok g' ∧ (Text.isBlank title = false → EnvOK g env → AllInv g') := by
  obtain ⟨g', hrep, id, hs, hout⟩ := runSec_ok _ hrun
  cases (replay_eq_raw hr h.ok).symm.trans hrep
  have hepic := secCreate_epic _ hs
  obtain ⟨hidmem, ⟨htomb, hhas⟩, more, rfl, hmore⟩ := secCreate_ok _ hs
  refine ⟨id, more, hidmem, hhas, htomb, hout, ?_⟩
  intro x
  have hxm : x ∈ g.tasks ++ [x] := List.mem_append_right _ (List.mem_singleton.2 rfl)
  have hap : applyEvent g (evOf x) = .ok { g with tasks := g.tasks ++ [x] } :=
    applyEvent_evOf g x rfl htomb hhas
  have hxinv : TaskInv x := taskInv_freshTask ..
  have hset := updateEvents_mem hmore
  obtain ⟨hR, hinvx⟩ := updateEvents_task hmore hxinv
  have hwf1 := applyEvent_WF h.ok.wf hap
  refine ⟨rfl, hmore, replayRaw_applyAppend (evs := evOf x :: more) hr ?_, fun htitle henv => ?_⟩
  · rw [foldlM_cons_ok _ hap]
    exact Eq.trans (foldlM_updates _ id more htomb fun e he => (hset e he).isUpdateFor) (congrArg _ (Graph.update_snoc g x _ hhas))
  · have hpos := henv.pos _ (now_mem_times henv.enough)
    have hxR : isEpic = false → EpicRef g (if isEpic = true then "" else epicId) := fun hE => by
      subst hE
      exact .of_find ((Decidable.em (epicId = "")).imp_right (hepic rfl))
    have keep : ∀ t ∈ g.tasks, ∃ t' ∈ g.tasks ++ [x], t'.id = t.id ∧ t'.isEpic = t.isEpic :=
      fun t ht => ⟨t, List.mem_append_left _ ht, rfl, rfl⟩
    have h1 : AllInv { g with tasks := g.tasks ++ [x] } := h.append [x] hwf1 fun t ht => by
      cases List.mem_singleton.1 ht
      exact itemOK_fresh rfl htitle (Nat.pos_iff_ne_zero.1 hpos) (henv.ids_ne id hidmem) (fun hE => if_pos hE) fun hE => (hxR hE).mono keep
    exact (congrArg AllInv (Graph.update_snoc g x _ hhas)).mp <| h1.updates (Graph.find?_of_mem hwf1 hxm) hpos (Nat.le_refl _)
      (fun _ hz => hz.mono keep) hxR hR hset hinvx

theorem secStep_create (isEpic : Bool) (epicId title body : String) (follow : SetReq)
    (htitle : Text.isBlank title = false) : SecStepOK (.create isEpic epicId title body follow) := fun _ _ _ _ _ hr h henv hrun =>
  let ⟨_, _, _, _, _, _, _, _, h1, h2⟩ := runSec_create_spec hr h hrun
  ⟨_, h1, h2 htitle henv⟩

theorem runSec_claimOldest_spec {log : List Event} {g : Graph} {env : Env} {epic : Id} {w : Write} {out : SecOut}
    (hr : replayRaw log = .ok g) (h : AllInv g) (hrun : runSec log env (.claimOldest epic) = .ok (w, out)) :
    ∃ t rest, readyTasks g epic = t :: rest ∧ g.find? t.id = some t ∧ out.claimed = some t ∧ out.now = env.now ∧
      let evs := [Event.claim t.id env.agent (some env.now), Event.state t.id .doing (some env.now)]
      w = .append evs ∧ replayRaw (applyWrite log w) = .ok (g.update t.id fun k => evs.foldl stepTask k) ∧
      (env.agent ≠ "" → EnvOK g env → AllInv (g.update t.id fun k => evs.foldl stepTask k)) := by
  obtain ⟨g', hrep, t, hs, hout, hnow'⟩ := runSec_ok _ hrun
  cases (replay_eq_raw hr h.ok).symm.trans hrep
  obtain ⟨rest, hrd, rfl⟩ := secClaimOldest_ok _ hs
  obtain ⟨htm, hE, -, -⟩ := (mem_readyTasks g epic t).1 (hrd ▸ List.mem_cons_self)
  have hwf := h.ok.wf
  have hfind : g.find? t.id = some t := Graph.find?_of_mem hwf htm
  have htomb : g.tombed t.id = false := Graph.tombed_false_iff.2 (hwf.live_not_tombed t htm)
  refine ⟨t, rest, hrd, hfind, hout, hnow', rfl,
    replayRaw_applyAppend hr (foldlM_updates g t.id _ htomb ?_), fun hag henv => ?_⟩
  · exact List.forall_mem_cons.2 ⟨rfl, List.forall_mem_singleton.2 rfl⟩
  · have hnow := now_mem_times henv.enough
    refine h.updates (u := {}) hfind (henv.pos _ hnow) (henv.later t htm _ (by simp [Task.times]) _ hnow)
      (fun _ hx => hx) (h.i14 t htm).2 (fun _ hx => nomatch hx) (List.forall_mem_cons.2 ⟨.claim _, List.forall_mem_singleton.2 (.state "doing")⟩) ?_
    exact TaskInv_task hE rfl (by simpa [docClaimOk, stepTask, St.clearsClaim] using hag)

/-- `--agent` is checked non-empty before the lock is taken (`sectionOf`): a condition on `env`, so this is not a `SecStepOK` -/
theorem secStep_claimOldest (epic : Id) :
    ∀ (log : List Event) (g : Graph) (env : Env) (w : Write) (out : SecOut),
      env.agent ≠ "" → replayRaw log = .ok g → AllInv g → EnvOK g env → runSec log env (.claimOldest epic) = .ok (w, out) →
      ∃ g', replayRaw (applyWrite log w) = .ok g' ∧ AllInv g' := fun _ _ _ _ _ hag hr h henv hrun =>
  let ⟨_, _, _, _, _, _, _, h1, h2⟩ := runSec_claimOldest_spec hr h hrun
  ⟨_, h1, h2 hag henv⟩

end Ergo
