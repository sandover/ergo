/-
  The JSON string codec (ErgoModel.Json): `decode_encode`, and no control character is written (`encodeChar_ge`), both from
  `encodeChar_cases`.  Then `strings.TrimSpace` (ErgoModel.Text): `trimSpaceL_spec`; on `String`, `trimSpace_not_blank`.  Elsewhere
  strings are `List Char`; Lean's `Char` is a Unicode scalar value.
-/
import ErgoModel.Json
import ErgoModel.Text
import ErgoProofs.Lemmas.ListAux
namespace Ergo.Json

theorem decodeBody_cons_raw (c : Char) (r : List Char) (hc : c ≠ '\\') :
    decodeBody (c :: r) = if c == '"' || c.toNat < 32 then none else (decodeBody r).map (c :: ·) := by
  rw [decodeBody]; exact hc

theorem decodeBody_u (a b c d : Char) (r : List Char) (n : Nat) (h : hex4 a b c d = some n) (hn : n < 0xD800) :
    decodeBody ('\\' :: 'u' :: a :: b :: c :: d :: r) = (decodeBody r).map (Char.ofNat n :: ·) := by
  rw [decodeBody, h]
  dsimp only
  rw [if_neg (by omega), scalarOf, if_pos (.inl hn)]

-- `Json.hexDigit : Nat → Char`, lower case; `Url.hexDigit : UInt8 → UInt8` (upper case, UrlThm) is another function
theorem hexVal_hexDigit (n : Nat) : hexVal (hexDigit (n % 16)) = some (n % 16) :=
  (by decide : ∀ d : Fin 16, hexVal (hexDigit d.val) = some d.val) ⟨n % 16, Nat.mod_lt _ (by decide)⟩

theorem hex4_u4 (n : Nat) (hn : n < 65536) :
    hex4 (hexDigit (n / 4096 % 16)) (hexDigit (n / 256 % 16)) (hexDigit (n / 16 % 16)) (hexDigit (n % 16)) = some n := by
  simp only [hex4, hexVal_hexDigit, bind, Option.bind, pure]
  congr 1; lia

theorem decodeBody_u4 (c : Char) (r : List Char) (hn : c.toNat < 0xD800) :
    decodeBody (u4 c.toNat ++ r) = (decodeBody r).map (c :: ·) := by
  have := decodeBody_u _ _ _ _ r c.toNat (hex4_u4 c.toNat (by omega)) hn
  rw [Char.ofNat_toNat] at this
  exact this

theorem char_eq_of_toNat (c : Char) (n : Nat) (h : c.toNat = n) : c = Char.ofNat n := by
  subst h; exact (Char.ofNat_toNat c).symm

/-- the two-character escapes: a character and the letter after the backslash -/
def shortEscapes : List (Char × Char) :=
  [('"', '"'), ('\\', '\\'), (Char.ofNat 8, 'b'), (Char.ofNat 12, 'f'), ('\n', 'n'), ('\r', 'r'), ('\t', 't')]

/-- `appendString` writes a character in one of three ways -/
theorem encodeChar_cases (esc : Bool) (c : Char) :
    (∃ e, (c, e) ∈ shortEscapes ∧ encodeChar esc c = ['\\', e]) ∨
    (c.toNat < 0xD800 ∧ encodeChar esc c = u4 c.toNat) ∨
    (c ≠ '"' ∧ c ≠ '\\' ∧ 32 ≤ c.toNat ∧ encodeChar esc c = [c]) := by
  have short {n e} (h : (c.toNat == n) = true) (he : (Char.ofNat n, e) ∈ shortEscapes) : (c, e) ∈ shortEscapes :=
    char_eq_of_toNat c n (eq_of_beq h) ▸ he
  fun_cases encodeChar esc c with
  | case1 h => exact .inl ⟨_, eq_of_beq h ▸ (by decide : ('"', '"') ∈ shortEscapes), rfl⟩
  | case2 _ h => exact .inl ⟨_, eq_of_beq h ▸ (by decide : ('\\', '\\') ∈ shortEscapes), rfl⟩
  | case3 | case4 | case5 | case6 | case7 => exact .inl ⟨_, short ‹_› (by decide), rfl⟩
  | case8 => exact .inr (.inl ⟨by omega, rfl⟩)
  | case9 =>
    rename_i h
    simp only [Bool.and_eq_true, Bool.or_eq_true, beq_iff_eq] at h
    refine .inr (.inl ⟨?_, rfl⟩)
    rcases h.2 with (h | h) | h <;> subst h <;> decide
  | case10 =>
    rename_i h
    simp only [Bool.or_eq_true, beq_iff_eq] at h
    exact .inr (.inl ⟨by omega, rfl⟩)
  | case11 _ h1 h2 => exact .inr (.inr ⟨fun e => h1 (beq_iff_eq.2 e), fun e => h2 (beq_iff_eq.2 e), by omega, rfl⟩)

theorem decodeBody_short (r : List Char) :
    ∀ p ∈ shortEscapes, decodeBody ('\\' :: p.2 :: r) = (decodeBody r).map (p.1 :: ·) := by
  simp [shortEscapes, decodeBody]

theorem decodeBody_encodeChar (esc : Bool) (c : Char) (r : List Char) :
    decodeBody (encodeChar esc c ++ r) = (decodeBody r).map (c :: ·) := by
  rcases encodeChar_cases esc c with ⟨e, he, h⟩ | ⟨hc, h⟩ | ⟨h1, h2, h3, h⟩ <;> rw [h]
  · exact decodeBody_short r _ he
  · exact decodeBody_u4 c r hc
  · rw [List.singleton_append, decodeBody_cons_raw c r h2, if_neg (by simp [h1, h3])]

theorem encodeBody_cons (esc : Bool) (c : Char) (s : List Char) : encodeBody esc (c :: s) = encodeChar esc c ++ encodeBody esc s :=
  List.flatMap_cons

theorem decodeBody_encodeBody (esc : Bool) (s : List Char) : decodeBody (encodeBody esc s) = some s := by
  induction s with
  | nil => simp [encodeBody, decodeBody]
  | cons c s ih => rw [encodeBody_cons, decodeBody_encodeChar, ih]; rfl

theorem decode_encode (esc : Bool) (s : List Char) : decodeString (encodeString esc s) = some s := by
  simp [encodeString, decodeString, decodeBody_encodeBody]

theorem decode_encode_html_agree (s : List Char) :
    decodeString (encodeString true s) = decodeString (encodeString false s) := by
  rw [decode_encode, decode_encode]

theorem encodeString_injective (esc : Bool) (s t : List Char) (h : encodeString esc s = encodeString esc t) : s = t := by
  have := congrArg decodeString h
  rw [decode_encode, decode_encode] at this
  exact Option.some.inj this

theorem hexDigit_ge (n : Nat) : 32 ≤ (hexDigit (n % 16)).toNat :=
  (by decide : ∀ d : Fin 16, 32 ≤ (hexDigit d.val).toNat) ⟨n % 16, Nat.mod_lt _ (by decide)⟩

theorem u4_ge (n : Nat) : ∀ c ∈ u4 n, 32 ≤ c.toNat := by
  simp only [u4, List.forall_mem_cons]
  exact ⟨by decide, by decide, hexDigit_ge _, hexDigit_ge _, hexDigit_ge _, hexDigit_ge _, nofun⟩

theorem encodeChar_ge (esc : Bool) (x : Char) : ∀ c ∈ encodeChar esc x, 32 ≤ c.toNat := by
  rcases encodeChar_cases esc x with ⟨e, he, h⟩ | ⟨_, h⟩ | ⟨_, _, h3, h⟩ <;> rw [h]
  · have : ∀ p ∈ shortEscapes, 32 ≤ p.2.toNat := by decide
    simp only [List.forall_mem_cons]
    exact ⟨by decide, this _ he, nofun⟩
  · exact u4_ge _
  · simpa using h3
end Ergo.Json

namespace Ergo.Text

theorem trimRight_append (t : List Char) : t = trimRight t ++ (t.reverse.takeWhile isSpace).reverse := by
  unfold trimRight
  rw [← List.reverse_append, List.takeWhile_append_dropWhile, List.reverse_reverse]

theorem trimRight_head (t : List Char) (c : Char) (h : (trimRight t).head? = some c) : t.head? = some c := by
  rw [trimRight_append t, List.head?_append, h]; rfl

/-- the documented alteration of titles given by flag or by `set` -/
theorem trimSpaceL_spec (s : List Char) :
    ∃ pre suf, s = pre ++ trimSpaceL s ++ suf ∧ (∀ c ∈ pre, isSpace c = true) ∧ (∀ c ∈ suf, isSpace c = true) ∧
      (∀ c, (trimSpaceL s).head? = some c → isSpace c = false) ∧ (∀ c, (trimSpaceL s).getLast? = some c → isSpace c = false) := by
  refine ⟨s.takeWhile isSpace, ((trimLeft s).reverse.takeWhile isSpace).reverse, ?_, ?_, ?_, ?_, ?_⟩
  · unfold trimSpaceL
    rw [List.append_assoc, ← trimRight_append, trimLeft, List.takeWhile_append_dropWhile]
  · intro c hc; exact mem_takeWhile_imp hc
  · intro c hc; rw [List.mem_reverse] at hc; exact mem_takeWhile_imp hc
  · intro c hc
    exact dropWhile_head? (trimRight_head _ c hc)
  · intro c hc
    unfold trimSpaceL trimRight at hc
    rw [List.getLast?_reverse] at hc
    exact dropWhile_head? hc

theorem trimSpaceL_id (s : List Char) (h1 : ∀ c, s.head? = some c → isSpace c = false)
    (h2 : ∀ c, s.getLast? = some c → isSpace c = false) : trimSpaceL s = s := by
  unfold trimSpaceL trimLeft trimRight
  rw [dropWhile_id h1, dropWhile_id (l := s.reverse) (by rw [List.head?_reverse]; exact h2), List.reverse_reverse]

theorem trimSpaceL_idem (s : List Char) : trimSpaceL (trimSpaceL s) = trimSpaceL s := by
  obtain ⟨_, _, _, _, _, h1, h2⟩ := trimSpaceL_spec s
  exact trimSpaceL_id _ h1 h2

theorem isBlankL_iff_trim_nil (s : List Char) : isBlankL s = true ↔ trimSpaceL s = [] := by
  unfold isBlankL
  constructor
  · intro h
    simp [trimSpaceL, trimLeft, trimRight, dropWhile_nil_of_all h]
  · intro h
    obtain ⟨pre, suf, hs, hp, hsf, _, _⟩ := trimSpaceL_spec s
    rw [hs, h]
    simpa [or_imp, forall_and] using ⟨hp, hsf⟩

theorem trimSpace_not_blank (s : String) (h : trimSpace s ≠ "") : isBlank (trimSpace s) = false := by
  rw [Bool.eq_false_iff]
  intro hb
  apply h
  unfold isBlank trimSpace at hb
  rw [String.toList_ofList, isBlankL_iff_trim_nil, trimSpaceL_idem] at hb
  unfold trimSpace
  rw [hb]
end Ergo.Text
