/-
  `buildSetEvents`, stage by stage: what each stage returns when it succeeds — the events as an expression in the request,
  and the check that passed — and `SetEv`, the events a `set` can write, one by one.
-/
import ErgoProofs.Lemmas.Tables
import ErgoProofs.Lemmas.OkAll
namespace Ergo

theorem implicitClaim_ok {t : Task} {u : Updates} {agent} :
    OkAll (fun c => c = u.claim ∨ (u.claim = none ∧ t.isEpic = false ∧ t.claimedBy = "" ∧ agent ≠ "" ∧ c = some agent ∧
                    (u.state = some "doing" ∨ u.state = some "error"))) (implicitClaim t u agent) := by
  fun_cases implicitClaim t u agent with
  | case1 => exact .error
  | case2 hcond s hc hs hde hag =>
    simp only [Bool.and_eq_true, Bool.not_eq_true', Bool.or_eq_true, beq_iff_eq] at hcond hde
    exact .ok (.inr ⟨hc, hcond.1, hcond.2, by simpa using hag, rfl, hde.imp (hs ▸ congrArg some ·) (hs ▸ congrArg some ·)⟩)
  | case3 _ _ hc => exact .ok (.inl hc.symm)
  | case4 | case5 => exact .ok (.inl rfl)

theorem evTitle_ok {id now o} :
    OkAll (fun l => l = (o.map fun s => Event.title id (Text.trimSpace s) (some now)).toList ∧
      ∀ s, o = some s → Text.trimSpace s ≠ "") (evTitle id now o) := by
  fun_cases evTitle id now o with
  | case1 => exact .ok ⟨rfl, nofun⟩
  | case2 => exact .error
  | case3 s _ hne => exact .ok ⟨rfl, fun _ h => by cases h; simpa using hne⟩

theorem evBody_eq (id now) (o : Option String) : evBody id now o = (o.map fun b => Event.body id b (some now)).toList := by
  cases o <;> rfl

theorem evEpic_ok {t : Task} {now o} :
    OkAll (fun l => l = (o.map fun e => Event.epic t.id e (some now)).toList ∧ (o.isSome → t.isEpic = false))
      (evEpic t now o) := by
  fun_cases evEpic t now o with
  | case1 => exact .ok ⟨rfl, nofun⟩
  | case2 => exact .error
  | case3 e hE => exact .ok ⟨rfl, fun _ => by simpa using hE⟩

theorem evClaim_ok {t : Task} {sg now o} :
    OkAll (fun l =>
      l = (match o with
        | none => []
        | some cv => if t.isEpic then [] else if cv == "" then [Event.unclaim t.id] else [Event.claim t.id cv (some now)]) ∧
      (o = some "" → t.isEpic = false → sg = true ∨ docClaimOk t.st "" = true)) (evClaim t sg now o) := by
  fun_cases evClaim t sg now o with
  | case1 => exact .ok ⟨rfl, nofun⟩
  | case2 cv hE => exact .ok ⟨(if_pos hE).symm, fun _ hE' => by simp [hE] at hE'⟩
  | case3 => exact .error
  | case4 cv hE hc hn =>
    refine .ok ⟨by simp [hE, hc], fun _ _ => ?_⟩
    rw [claimInvariantOk_eq] at hn; cases sg <;> simp_all
  | case5 cv hE hc => exact .ok ⟨by simp [hE, hc], fun h => by cases h; simp at hc⟩

theorem evState_ok {t : Task} {claim now o} :
    OkAll (fun l => l = (o.map fun s => Event.state t.id (St.ofString s) (some now)).toList ∧
      ∀ s, o = some s → (St.ofString s).valid = true ∧ (t.st = St.ofString s ∨ docTransition t.st (St.ofString s) = true) ∧
        docClaimOk (St.ofString s)
          (if (St.ofString s).clearsClaim then "" else if claim.isSome && !t.isEpic then claim.getD "" else t.claimedBy) = true)
      (evState t claim now o) := by
  fun_cases evState t claim now o with
  | case1 => exact .ok ⟨rfl, nofun⟩
  | case2 | case3 | case4 => exact .error
  | case5 s st hv htr nc nc' hc =>
    refine .ok ⟨rfl, ?_⟩
    rintro _ ⟨⟩
    rw [validTransition_eq] at htr
    rw [claimInvariantOk_eq] at hc
    exact ⟨by simpa using hv, by simpa only [Bool.not_eq_true', Bool.not_eq_false, Bool.or_eq_true, beq_iff_eq] using htr,
      by simpa only [Bool.not_eq_true', Bool.not_eq_false] using hc⟩

theorem evTrail_ok {t : Task} {claim sg now} :
    OkAll (fun l => l = (if claim.isSome && !t.isEpic && claim.getD "" != "" && !sg then [Event.state t.id .doing (some now)] else []) ∧
      ((claim.isSome && !t.isEpic && claim.getD "" != "" && !sg) = true → t.st = .doing ∨ docTransition t.st .doing = true))
      (evTrail t claim sg now) := by
  fun_cases evTrail t claim sg now with
  | case1 => exact .error
  | case2 hc htr =>
    rw [validTransition_eq] at htr
    exact .ok ⟨(if_pos hc).symm, fun _ => by simpa only [Bool.not_eq_true', Bool.not_eq_false, Bool.or_eq_true, beq_iff_eq] using htr⟩
  | case3 hc => exact .ok ⟨(if_neg hc).symm, fun h => absurd h hc⟩

theorem buildSetEvents_ok {t : Task} {u : Updates} {agent now} :
    OkAll (fun evs => ∃ claim e1 e3 e4 e5 e6, implicitClaim t u agent = .ok claim ∧ evTitle t.id now u.title = .ok e1 ∧
      evEpic t now u.epic = .ok e3 ∧ evClaim t u.state.isSome now claim = .ok e4 ∧ evState t claim now u.state = .ok e5 ∧
      evTrail t claim u.state.isSome now = .ok e6 ∧ evs = e1 ++ evBody t.id now u.body ++ e3 ++ e4 ++ e5 ++ e6)
      (buildSetEvents t u agent now) :=
  .bind fun claim h0 => .bind fun e1 h1 => .bind fun e3 h3 => .bind fun e4 h4 => .bind fun e5 h5 => .bind fun e6 h6 =>
    .ok ⟨claim, e1, e3, e4, e5, e6, h0, h1, h3, h4, h5, h6, rfl⟩

theorem Updates.eq_empty {u : Updates} (h : u.isEmpty = true) : u = {} := by
  obtain ⟨ti, bo, ep, st, cl⟩ := u
  simp only [Updates.isEmpty, Bool.and_eq_true, Option.isNone_iff_eq_none] at h
  obtain ⟨⟨⟨⟨rfl, rfl⟩, rfl⟩, rfl⟩, rfl⟩ := h
  rfl

theorem buildSetEvents_empty {t : Task} {agent : String} {now : Time} : buildSetEvents t {} agent now = .ok [] := by
  unfold buildSetEvents implicitClaim
  split <;> rfl

/-- The events a `set` of `t` with keys `u` can write: one constructor per line of `buildSetEvents` that writes (the `doing` that
    goes with a claim is `state "doing"`), and `result` for the attachment `updateEvents` puts in front.  `title`, `epic` and `result`
    carry what their stage checked: a trimmed title is not empty, only a task gets an epic or a result, the summary passed
    `resultSummaryOk`. -/
inductive SetEv (t : Task) (u : Updates) (now : Time) : Event → Prop
  | result {s} (c sh mt gi : String) : t.isEpic = false → resultSummaryOk s = true →
      SetEv t u now (.result t.id (Text.trimSpace s) c sh mt gi (some now))
  | title {s} : u.title = some s → Text.trimSpace s ≠ "" → SetEv t u now (.title t.id (Text.trimSpace s) (some now))
  | body {b} : u.body = some b → SetEv t u now (.body t.id b (some now))
  | epic {e} : u.epic = some e → t.isEpic = false → SetEv t u now (.epic t.id e (some now))
  | unclaim : SetEv t u now (.unclaim t.id)
  | claim (cv : String) : SetEv t u now (.claim t.id cv (some now))
  | state (s : String) : SetEv t u now (.state t.id (St.ofString s) (some now))

theorem buildSetEvents_mem {t : Task} {u : Updates} {agent now evs} (h : buildSetEvents t u agent now = .ok evs) :
    ∀ e ∈ evs, SetEv t u now e := by
  obtain ⟨claim, e1, e3, e4, e5, e6, -, h1, h3, h4, h5, h6, rfl⟩ := buildSetEvents_ok _ h
  obtain ⟨rfl, hti⟩ := evTitle_ok _ h1
  obtain ⟨rfl, hep⟩ := evEpic_ok _ h3
  obtain ⟨rfl, -⟩ := evClaim_ok _ h4
  obtain ⟨rfl, -⟩ := evState_ok _ h5
  obtain ⟨rfl, -⟩ := evTrail_ok _ h6
  rw [evBody_eq]
  have nil : ∀ e ∈ ([] : List Event), SetEv t u now e := fun _ h => nomatch h
  have one : ∀ {x}, SetEv t u now x → ∀ e ∈ [x], SetEv t u now e := List.forall_mem_singleton.2
  have opt : ∀ {o : Option String} {f : String → Event}, (∀ s, o = some s → SetEv t u now (f s)) →
      ∀ e ∈ (o.map f).toList, SetEv t u now e := by
    rintro (_ | s) f h
    · exact nil
    · exact one (h s rfl)
  simp only [List.forall_mem_append]
  refine ⟨⟨⟨⟨⟨opt fun s hs => .title hs (hti s hs), opt fun _ hs => .body hs⟩,
    opt fun _ hs => .epic hs (hep (hs ▸ rfl))⟩, ?_⟩, opt fun s _ => .state s⟩, ?_⟩
  · split
    · exact nil
    · split
      · exact nil
      · split
        · exact one .unclaim
        · exact one (.claim _)
  · split
    · exact one (.state "doing")
    · exact nil

end Ergo
