/-
  C19 layout; a display string is a list of cells (character, display width), `visLen` its width.  `formatTreeLine` is taken apart
  (`formatTreeLine_eq`) so that each if-tree is walked once: per piece a `_width` lemma (the columns it may take) and a `mem_` lemma (where
  its cells come from); from them `row_width` and `mem_formatTreeLine`.  Where a lemma ends in `unfold …; grind`, the `have`s before it are
  what it rests on and `grind` only walks the if-tree.  Last, `abbreviateKeep`: how many characters of a blocker's name `abbreviate` keeps.
-/
import ErgoModel.Render
namespace Ergo.Render

theorem visLen_nil : visLen [] = 0 := rfl

theorem visLen_cons (c : Cell) (s : Str) : visLen (c :: s) = c.w + visLen s := by
  simp [visLen]

theorem visLen_append (a b : Str) : visLen (a ++ b) = visLen a + visLen b := by
  simp [visLen, List.map_append, List.sum_append]

theorem visLen_nonneg (s : Str) : 0 ≤ visLen s := by
  induction s with
  | nil => exact Int.le_refl 0
  | cons c cs ih => rw [visLen_cons]; omega

theorem visLen_of_w1 (s : Str) (h : ∀ c ∈ s, c.w = 1) : visLen s = s.length := by
  induction s with
  | nil => rfl
  | cons c cs ih =>
    rw [visLen_cons, ih (fun d hd => h d (List.mem_cons_of_mem _ hd)), h c (List.mem_cons_self ..)]
    simp only [List.length_cons]; omega

theorem visLen_spaces (n : Int) (h : 0 ≤ n) : visLen (spaces n) = n := by
  rw [spaces, visLen_of_w1 _ fun c hc => (List.mem_replicate.1 hc).2 ▸ rfl, List.length_replicate]; omega

theorem visLen_takeWidth (s : Str) (t : Int) (ht : 0 ≤ t) : visLen (takeWidth s t) ≤ t := by
  fun_induction takeWidth s t with
  | case1 | case2 => exact ht
  | case3 t c cs h ih => rw [visLen_cons]; have := ih (by omega); omega

theorem takeWidth_prefix (s : Str) (t : Int) : takeWidth s t <+: s := by
  fun_induction takeWidth s t with
  | case1 | case2 => exact List.nil_prefix
  | case3 t c cs h ih => exact List.cons_prefix_cons.2 ⟨rfl, ih⟩

theorem truncate_cases (ell : Cell) (s : Str) (m : Int) :
    (m ≤ 0 ∧ truncateToWidth ell s m = []) ∨ (0 < m ∧ truncateToWidth ell s m = [ell]) ∨
    (visLen s ≤ m ∧ truncateToWidth ell s m = s) ∨
    (1 ≤ m - ell.w ∧ truncateToWidth ell s m = takeWidth s (m - ell.w) ++ [ell]) := by
  unfold truncateToWidth
  grind

/-- `hell`: the width go-runewidth reports for "…" outside East-Asian locales -/
theorem visLen_truncate (ell : Cell) (hell : ell.w = 1) (s : Str) (m : Int) : visLen (truncateToWidth ell s m) ≤ max m 0 := by
  rcases truncate_cases ell s m with ⟨h, e⟩ | ⟨h, e⟩ | ⟨h, e⟩ | ⟨h, e⟩ <;> rw [e]
  · rw [visLen_nil]; omega
  · rw [visLen_cons, visLen_nil, hell]; omega
  · omega
  · have := visLen_takeWidth s (m - ell.w) (by omega)
    rw [visLen_append, visLen_cons, visLen_nil, hell] at *; omega

theorem truncate_fits (ell : Cell) (s : Str) (m : Int) (hm : 1 < m) (h : visLen s ≤ m) : truncateToWidth ell s m = s := by
  unfold truncateToWidth
  rw [if_neg (by omega), if_neg (by omega), if_pos h]

theorem truncate_prefix (ell : Cell) (s : Str) (m : Int) :
    truncateToWidth ell s m = [] ∨ truncateToWidth ell s m = s ∨ ∃ p, p <+: s ∧ truncateToWidth ell s m = p ++ [ell] := by
  rcases truncate_cases ell s m with ⟨_, e⟩ | ⟨_, e⟩ | ⟨_, e⟩ | ⟨_, e⟩
  · exact .inl e
  · exact .inr (.inr ⟨[], List.nil_prefix, e⟩)
  · exact .inr (.inl e)
  · exact .inr (.inr ⟨_, takeWidth_prefix _ _, e⟩)

def clamp0 (x : Int) : Int := if x < 0 then 0 else x
theorem clamp0_of_nonneg {x : Int} (h : 0 ≤ x) : clamp0 x = x := if_neg (by omega)

def titleAnnOf (ell : Cell) (T A : Str) (mc : Int) : Str × Str :=
  if visLen T + visLen A > mc then
    ((if visLen T > mc then truncateToWidth ell T mc else T),
     (if mc - visLen T > 0 && !A.isEmpty then truncateToWidth ell A (mc - visLen T) else []))
  else (T, A)

def blockerColOf (W idStart : Int) : Int :=
  let blockerCol0 := W * 55 / 100
  let maxStart := idStart - 2 - 1
  if blockerCol0 > maxStart then maxStart else blockerCol0

def sbOf (W idStart : Int) (left : Str) : Str :=
  let pad := blockerColOf W idStart - visLen left
  left ++ (if pad > 1 then spaces pad else [sp, sp])

def withBlockerOf (ell : Cell) (W idStart : Int) (left B : Str) : Str :=
  if B.isEmpty then left
  else
    if idStart - 2 - visLen left > 6 then
      let sb := sbOf W idStart left
      let maxB := idStart - 2 - visLen sb
      if maxB > 0 then sb ++ (if visLen B > maxB then truncateToWidth ell B maxB else B) else sb
    else left

theorem formatTreeLine_eq (ell : Cell) (r : RowIn) :
    formatTreeLine ell r =
      let idStart := clamp0 (r.width - 2 - r.id.length - 2)
      let mc := clamp0 (idStart - 2 - visLen r.base)
      let ta := titleAnnOf ell (singleLine r.title) (singleLine r.annotation) mc
      let wb := withBlockerOf ell r.width idStart (r.base ++ ta.1 ++ ta.2) (singleLine r.blocker)
      wb ++ spaces (clamp0 (idStart - visLen wb)) ++ [sp, sp] ++ r.id := by
  rfl

theorem titleAnnOf_width (ell : Cell) (hell : ell.w = 1) (T A : Str) (mc : Int) (hmc : 0 ≤ mc) :
    visLen (titleAnnOf ell T A mc).1 + visLen (titleAnnOf ell T A mc).2 ≤ mc := by
  have h1 := visLen_truncate ell hell T mc
  have h2 := visLen_truncate ell hell A (mc - visLen T)
  have h0 := visLen_nil
  -- the annotation gets what the whole title leaves of `mc`: nothing, if the title had to be cut
  unfold titleAnnOf
  grind

theorem sbOf_width (W idStart : Int) (left : Str) (h : idStart - 2 - visLen left > 6) :
    visLen (sbOf W idStart left) ≤ idStart - 3 := by
  have hbc : blockerColOf W idStart ≤ idStart - 3 := by
    fun_cases blockerColOf W idStart <;> omega
  unfold sbOf
  dsimp only
  rw [visLen_append]
  split
  · rename_i hp
    rw [visLen_spaces _ (by omega)]
    omega
  · simp only [visLen_cons, visLen_nil, sp]; omega

theorem withBlockerOf_width (ell : Cell) (hell : ell.w = 1) (W idStart : Int) (left B : Str)
    (h : visLen left ≤ idStart - 2) : visLen (withBlockerOf ell W idStart left B) ≤ idStart - 2 := by
  have h1 := visLen_truncate ell hell B (idStart - 2 - visLen (sbOf W idStart left))
  have h2 := sbOf_width W idStart left
  -- `sb` ends by column `idStart - 3`, and the blocker is cut to what is left
  unfold withBlockerOf
  simp only [apply_ite visLen, visLen_append]
  grind

theorem mem_truncate (ell : Cell) (s : Str) (m : Int) (c : Cell) (h : c ∈ truncateToWidth ell s m) : c ∈ s ∨ c = ell := by
  rcases truncate_prefix ell s m with e | e | ⟨p, hp, e⟩ <;> rw [e] at h
  · cases h
  · exact .inl h
  · rcases List.mem_append.1 h with h | h
    · exact .inl (hp.subset h)
    · exact .inr (List.mem_singleton.1 h)

theorem mem_spaces (n : Int) (c : Cell) (h : c ∈ spaces n) : c = sp := (List.mem_replicate.1 h).2

theorem mem_titleAnnOf {ell : Cell} {T A : Str} {mc : Int} {c : Cell}
    (h : c ∈ (titleAnnOf ell T A mc).1 ∨ c ∈ (titleAnnOf ell T A mc).2) : c ∈ T ∨ c ∈ A ∨ c = ell := by
  have hT := mem_truncate ell T mc c
  have hA := mem_truncate ell A (mc - visLen T) c
  unfold titleAnnOf at h
  grind

theorem mem_sbOf (W i : Int) (left : Str) (c : Cell) (h : c ∈ sbOf W i left) : c ∈ left ∨ c = sp := by
  have hs := mem_spaces (blockerColOf W i - visLen left) c
  unfold sbOf at h
  grind

theorem mem_withBlockerOf {ell : Cell} {W i : Int} {left B : Str} {c : Cell} (h : c ∈ withBlockerOf ell W i left B) :
    c ∈ left ∨ c ∈ B ∨ c = sp ∨ c = ell := by
  have hsb := mem_sbOf W i left c
  have hB := mem_truncate ell B (i - 2 - visLen (sbOf W i left)) c
  unfold withBlockerOf at h
  grind

theorem mem_formatTreeLine {ell : Cell} {r : RowIn} {c : Cell} (h : c ∈ formatTreeLine ell r) :
    c ∈ r.base ∨ c ∈ r.id ∨ c ∈ singleLine r.title ∨ c ∈ singleLine r.annotation ∨ c ∈ singleLine r.blocker ∨ c = sp ∨ c = ell := by
  rw [formatTreeLine_eq] at h
  simp only [List.mem_append, List.mem_cons, List.not_mem_nil, or_false] at h
  rcases h with ((h | h) | h) | h
  · have h := mem_withBlockerOf h
    simp only [List.mem_append] at h
    grind [mem_titleAnnOf]
  · exact .inr (.inr (.inr (.inr (.inr (.inl (mem_spaces _ c h))))))
  · exact .inr (.inr (.inr (.inr (.inr (.inl (h.elim id id))))))
  · exact .inr (.inl h)

theorem mem_singleLine {s : Str} {c : Cell} (h : c ∈ singleLine s) : isControl c.ch = false := by
  obtain ⟨d, _, rfl⟩ := List.mem_map.1 h
  by_cases hd : isControl d.ch = true
  · rw [if_pos hd]; decide
  · rw [if_neg hd]; simpa using hd

theorem row_width (ell : Cell) (hell : ell.w = 1) (r : RowIn) (hid : ∀ c ∈ r.id, c.w = 1)
    (hW : r.width ≥ visLen (singleLine r.base) + r.id.length + 6) (hbase : singleLine r.base = r.base) :
    ∃ left, formatTreeLine ell r = left ++ r.id ∧ visLen left = r.width - 2 - r.id.length ∧
      visLen (formatTreeLine ell r) = r.width - 2 := by
  rw [hbase] at hW  -- all `hbase` is for: `formatTreeLine` never filters the base
  have hb0 := visLen_nonneg r.base
  rw [formatTreeLine_eq]
  dsimp only
  rw [clamp0_of_nonneg (x := r.width - 2 - r.id.length - 2) (by omega)]
  generalize hi : r.width - 2 - r.id.length - 2 = idStart at *
  rw [clamp0_of_nonneg (x := idStart - 2 - visLen r.base) (by omega)]
  generalize hta : titleAnnOf ell (singleLine r.title) (singleLine r.annotation) (idStart - 2 - visLen r.base) = ta
  have h1 := titleAnnOf_width ell hell (singleLine r.title) (singleLine r.annotation) (idStart - 2 - visLen r.base) (by omega)
  rw [hta] at h1
  have h2 := withBlockerOf_width ell hell r.width idStart (r.base ++ ta.1 ++ ta.2) (singleLine r.blocker)
    (by rw [visLen_append, visLen_append]; omega)
  generalize withBlockerOf ell r.width idStart (r.base ++ ta.1 ++ ta.2) (singleLine r.blocker) = wb at h2 ⊢
  rw [clamp0_of_nonneg (x := idStart - visLen wb) (by omega)]
  have hL : visLen (wb ++ spaces (idStart - visLen wb) ++ [sp, sp]) = r.width - 2 - r.id.length := by
    rw [visLen_append, visLen_append, visLen_spaces _ (by omega)]
    simp only [visLen_cons, visLen_nil, sp]; omega
  refine ⟨_, rfl, hL, ?_⟩
  rw [visLen_append, hL, visLen_of_w1 _ hid]; omega

theorem abbreviateKeep_go (ls : List Nat) (room k : Nat) :
    ∃ j ≤ ls.length, abbreviateKeep.go ls room k = k + j ∧ (ls.take j).sum ≤ room := by
  fun_induction abbreviateKeep.go ls room k with
  | case1 | case3 => exact ⟨0, by simp⟩
  | case2 l ls room k h ih =>
    obtain ⟨j, h0, h1, h2⟩ := ih
    refine ⟨j+1, by simpa using h0, by omega, ?_⟩
    simp [List.take_succ_cons]; omega

theorem abbreviateKeep_le (lens : List Nat) (maxLen : Nat) : abbreviateKeep lens maxLen ≤ lens.length := by
  fun_cases abbreviateKeep lens maxLen
  · omega
  · omega
  · obtain ⟨j, h0, h1, -⟩ := abbreviateKeep_go lens (maxLen - 1) 0
    omega

/-- the code reserves one byte for the three-byte "…": what `abbreviate` returns may exceed `maxLen` by 2 -/
theorem abbreviateKeep_bytes (lens : List Nat) (maxLen : Nat) (h : maxLen < lens.sum) (h1 : 1 < maxLen) :
    (lens.take (abbreviateKeep lens maxLen)).sum ≤ maxLen - 1 := by
  unfold abbreviateKeep
  rw [if_neg (by omega), if_neg (by omega)]
  obtain ⟨j, -, h1, h2⟩ := abbreviateKeep_go lens (maxLen - 1) 0
  simp only [h1]
  simpa using h2
end Ergo.Render
