/-
  About ErgoModel.View, for C16.  What `list --json` (`listJson_eq`: one filter of `listTasks`; then a lemma per option set) and
  `show --json` print, against the graph.  What a mutating command reports (`SecOut`, `replyOf`), against the store it leaves: a command
  that exits 0 ran one lock section (`runCmd_ok_cases`), the section's specification (`runSec_*_spec`) gives the graph afterwards, and
  the report is compared with that graph.
-/
import ErgoProofs.Lemmas.StepUpdate
import ErgoProofs.Lemmas.StepGraphPrune
import ErgoModel.View
namespace Ergo

theorem mem_listTasks (g : Graph) (epic : Id) (ro : Bool) (t : Task) :
    t ∈ listTasks g epic ro ↔ t ∈ g.tasks ∧ (epic = "" ∨ t.epicId = epic) ∧ (ro = true → isReady g t = true) := by
  unfold listTasks
  simp only [List.mem_mergeSort, List.mem_filter, Bool.and_eq_true, Bool.or_eq_true, beq_iff_eq, Bool.not_eq_true']
  cases ro <;> simp

theorem listJson_eq (g : Graph) (o : ListOpts) (h : o.showEpics = false) :
    listJson g o = ((listTasks g o.epicId o.readyOnly).filter fun t =>
      (o.showAll || o.readyOnly || !t.st.closed) && !t.isEpic).map (listItem g) := by
  cases hA : o.showAll <;> cases hR : o.readyOnly <;> simp [listJson, h, hA, hR, List.filter_filter]

theorem listJson_all (g : Graph) :
    ((listJson g { showAll := true }).map (·.id)).Perm ((g.tasks.filter fun t => !t.isEpic).map (·.id)) ∧
    ∀ i ∈ listJson g { showAll := true }, ∃ t ∈ g.tasks, t.isEpic = false ∧ i = listItem g t := by
  have hp : (listTasks g "" false).Perm g.tasks := by
    unfold listTasks
    refine (List.mergeSort_perm _ _).trans ?_
    rw [List.filter_eq_self.2]
    intro t _
    simp
  rw [listJson_eq g _ rfl]
  simp only [Bool.true_or, Bool.true_and]
  constructor
  · rw [List.map_map]
    exact (hp.filter _).map _
  · intro i hi
    obtain ⟨t, ht, rfl⟩ := List.mem_map.1 hi
    obtain ⟨ht1, ht2⟩ := List.mem_filter.1 ht
    exact ⟨t, hp.mem_iff.1 ht1, by simpa using ht2, rfl⟩

theorem listJson_default (g : Graph) (i : ListItem) :
    i ∈ listJson g {} ↔ ∃ t ∈ g.tasks, t.isEpic = false ∧ t.st.closed = false ∧ i = listItem g t := by
  rw [listJson_eq g _ rfl]
  simp only [Bool.false_or, List.mem_map, List.mem_filter, mem_listTasks, Bool.and_eq_true, Bool.not_eq_true']
  constructor
  · rintro ⟨t, ⟨⟨ht, -, -⟩, hc, hE⟩, rfl⟩
    exact ⟨t, ht, hE, hc, rfl⟩
  · rintro ⟨t, ht, hE, hc, rfl⟩
    exact ⟨t, ⟨⟨ht, Or.inl trivial, by simp⟩, hc, hE⟩, rfl⟩

/-- `list --json --ready` lists what `claim` chooses from -/
theorem listJson_ready (g : Graph) (i : ListItem) :
    i ∈ listJson g { readyOnly := true } ↔ ∃ t ∈ readyTasks g "", i = listItem g t := by
  rw [listJson_eq g _ rfl]
  simp only [Bool.false_or, Bool.true_or, Bool.true_and, List.mem_map, List.mem_filter, mem_listTasks, Bool.not_eq_true', mem_readyTasks]
  constructor
  · rintro ⟨t, ⟨⟨ht, -, hr⟩, hE⟩, rfl⟩
    exact ⟨t, ⟨ht, hE, hr trivial, Or.inl trivial⟩, rfl⟩
  · rintro ⟨t, ⟨ht, hE, hr, -⟩, rfl⟩
    exact ⟨t, ⟨⟨ht, Or.inl trivial, fun _ => hr⟩, hE⟩, rfl⟩

/-- so C08's `ready_iff` / `blocked_iff` speak about the printed flags -/
theorem listItem_flags (g : Graph) (t : Task) :
    (listItem g t).ready = isReady g t ∧ (listItem g t).blocked = isBlocked g t ∧ (listItem g t).st = t.st ∧
    (listItem g t).claimedBy = t.claimedBy :=
  ⟨rfl, rfl, rfl, rfl⟩

/-- the array is sorted by id (deterministic order) -/
theorem listJson_sorted (g : Graph) (o : ListOpts) (h : o.showEpics = false) :
    ((listJson g o).map (·.id)).Pairwise (fun a b => strLe a b = true) := by
  rw [listJson_eq g o h, List.map_map, List.pairwise_map]
  unfold listTasks
  exact (List.pairwise_mergeSort taskIdLe_trans taskIdLe_total _).sublist List.filter_sublist

theorem showJson_pruned (g : Graph) (id : Id) (h : g.tombed id = true) : showJson g id = .error (.pruned id) := by
  simp [showJson, h]

theorem showJson_live (g : Graph) (hwf : WF g) (t : Task) (ht : t ∈ g.tasks) :
    ∃ o, showJson g t.id = .ok o ∧
      (o = .item (showItem g t) ∨ ∃ kids, o = .epic (showItem g t) kids) := by
  have hf : g.find? t.id = some t := Graph.find?_of_mem hwf ht
  simp only [showJson, Graph.tombed_iff, hwf.live_not_tombed t ht, if_false, hf]
  by_cases hc : (t.isEpic && !(if t.isEpic = true then epicChildren g t.id else []).isEmpty) = true
  · rw [if_pos hc]
    exact ⟨_, rfl, Or.inr ⟨_, rfl⟩⟩
  · rw [if_neg hc]
    exact ⟨_, rfl, Or.inl rfl⟩

theorem show_mirror (g : Graph) (a b : Task) :
    b.id ∈ (showItem g a).deps ↔ a.id ∈ (showItem g b).rdeps := by
  simp only [showItem, mem_sortIds, mem_depsOf, mem_rdepsOf]

theorem show_deps_iff (g : Graph) (a : Task) (d : Id) : d ∈ (showItem g a).deps ↔ (a.id, d) ∈ g.deps := by
  simp only [showItem, mem_sortIds, mem_depsOf]

/-- `hne`: `claim` that finds nothing ready exits 0 without a write -/
theorem runCmd_ok_cases {log : List Event} {env : Env} {req : Request} (h : (runCmd log env req).err = none)
    (hne : ∀ e, req ≠ .claimOldest e) :
    ∃ sec w out, sectionOf env.agent req = .ok sec ∧ runSec log env sec = .ok (w, out) ∧
      runCmd log env req = { err := none, log := applyWrite log w, write := some w, out } :=
  (runCmd_cases log env req).resolve_left fun h' => (h'.2.2 h).elim hne

theorem no_write_means_error (log : List Event) (env : Env) (req : Request) (h : (runCmd log env req).write = none)
    (hne : ∀ e, req ≠ .claimOldest e) : (runCmd log env req).err ≠ none := by
  intro he
  obtain ⟨_, _, _, -, -, hres⟩ := runCmd_ok_cases he hne
  rw [hres] at h
  cases h

theorem created_id_fresh_and_visible (log : List Event) (g : Graph) (hg : replayRaw log = .ok g) (hinv : AllInv g)
    (env : Env) (isEpic : Bool) (epicId title body : String) (follow : SetReq) (w : Write) (out : SecOut)
    (h : runSec log env (.create isEpic epicId title body follow) = .ok (w, out)) :
    ∃ id, out.created = some id ∧ g.has id = false ∧ g.tombed id = false ∧ id ∈ env.ids ∧
      ∃ g', replayRaw (applyWrite log w) = .ok g' ∧ g'.has id = true := by
  obtain ⟨id, more, hid, hh, ht, hc, -, -, hg', -⟩ := runSec_create_spec hg hinv h
  refine ⟨id, hc, hh, ht, hid, _, hg', ?_⟩
  simp [Graph.has, foldl_stepTask_id, freshTask]

theorem claim_reply_true (log : List Event) (g : Graph) (hg : replayRaw log = .ok g) (hinv : AllInv g)
    (env : Env) (epic : Id) (w : Write) (out : SecOut)
    (h : runSec log env (.claimOldest epic) = .ok (w, out)) :
    ∃ t, out.claimed = some t ∧ ∃ g' t', replayRaw (applyWrite log w) = .ok g' ∧ g'.find? t.id = some t' ∧
      t'.st = .doing ∧ t'.claimedBy = env.agent := by
  obtain ⟨t, rest, -, hf, hc, -, -, hg', -⟩ := runSec_claimOldest_spec hg hinv h
  exact ⟨t, hc, _, _, hg', Graph.update_find?_self hf (foldl_stepTask_id _), rfl, rfl⟩

theorem prune_reply_true (log : List Event) (g : Graph) (hg : replayRaw log = .ok g) (hinv : AllInv g)
    (env : Env) (w : Write) (out : SecOut)
    (h : runSec log env (.prune true) = .ok (w, out)) :
    out.pruned = pruneTargets g ∧ ∃ g', replayRaw (applyWrite log w) = .ok g' ∧
      (∀ i ∈ out.pruned, g'.has i = false) ∧ (∀ t ∈ g.tasks, t.id ∉ out.pruned → g'.has t.id = true) := by
  obtain ⟨hp, hg', -⟩ := runSec_prune_spec hg hinv h
  -- the graph in `hg'`, `if true then (pruneTargets g).foldl applyTombstone g else g`, reduces to the fold `hT` speaks of
  obtain ⟨hT, -⟩ := foldl_applyTombstone_mem g (pruneTargets g)
  rw [hp]
  refine ⟨rfl, _, hg', fun i hi => ?_, fun t ht hn => ?_⟩
  · rw [Graph.has_false_iff]
    intro t ht hid
    exact ((hT t).1 ht).2 (hid ▸ hi)
  · exact Graph.has_iff.2 ⟨t, (hT t).2 ⟨ht, hn⟩, rfl⟩

theorem claim_update_events {g : Graph} {t : Task} {a : String} {po : PathOutcome} {now : Time} {evs : List Event} (ha : a ≠ "")
    (h : updateEvents g t { u := { claim := some a, state := some "doing" } } a po now = .ok evs) :
    evs = [Event.claim t.id a (some now), Event.state t.id .doing (some now)] := by
  obtain ⟨_, rfl, _, rfl, hb, hep, -⟩ := updateEvents_ok _ h
  have hE : t.isEpic = false := Bool.eq_false_iff.2 fun hE => nomatch (hep hE).1
  obtain ⟨claim, e1, e3, e4, e5, e6, h0, h1, h3, h4, h5, h6, rfl⟩ := buildSetEvents_ok _ hb
  obtain rfl : claim = some a := (implicitClaim_ok _ h0).elim id fun hc => nomatch hc.1
  -- every stage's events are an expression in the request
  rw [(evTitle_ok _ h1).1, (evEpic_ok _ h3).1, (evClaim_ok _ h4).1, (evState_ok _ h5).1, (evTrail_ok _ h6).1]
  simp [evBody, hE, ha, show St.ofString "doing" = .doing from rfl]

theorem sequence_sec_reply (env : Env) (args : List String) (sec : Sec) (res : CmdResult)
    (h : sectionOf env.agent (.sequence args) = .ok sec) (herr : res.err = none) :
    ∃ un es, sec = .links un es ∧ replyOf env (.sequence args) res = some (.sequence un es) := by
  simp only [replyOf, herr]
  simp only [sectionOf] at h
  -- the four branches of `sectionOf` on `.sequence`: `[]`, `[_]` (usage), `"rm" :: rest`, `a :: rest`
  split at h
  · cases h
  · cases h
  · split at h <;> cases h
    exact ⟨_, _, rfl, rfl⟩
  · cases h
    rename_i hne hrm
    refine ⟨_, _, rfl, ?_⟩
    -- `replyOf` tests for "rm" again; the first argument is not "rm" here
    split
    · rename_i heq; exact absurd (List.cons.inj heq).1 hrm
    · rename_i heq; cases heq; rfl
    · rename_i heq; cases heq

theorem foldl_setEv_text {t : Task} {u : Updates} {now : Time} {evs : List Event} (h : ∀ e ∈ evs, SetEv t u now e)
    (hu : u.title = none ∧ u.body = none ∧ u.epic = none) (k : Task) :
    (evs.foldl stepTask k).title = k.title ∧ (evs.foldl stepTask k).body = k.body ∧ (evs.foldl stepTask k).epicId = k.epicId := by
  induction evs generalizing k with
  | nil => exact ⟨rfl, rfl, rfl⟩
  | cons e es ih =>
    obtain ⟨h1, h2, h3⟩ := ih (fun e he => h e (List.mem_cons_of_mem _ he)) (stepTask k e)
    obtain ⟨h4, h5, h6⟩ : (stepTask k e).title = k.title ∧ (stepTask k e).body = k.body ∧ (stepTask k e).epicId = k.epicId := by
      cases h e List.mem_cons_self with
      | title hs => exact nomatch hu.1 ▸ hs
      | body hs => exact nomatch hu.2.1 ▸ hs
      | epic hs => exact nomatch hu.2.2 ▸ hs
      | _ => exact ⟨rfl, rfl, rfl⟩
    exact ⟨h1.trans h4, h2.trans h5, h3.trans h6⟩

theorem replayRaw_create_find {log : List Event} {g : Graph} (hg : replayRaw log = .ok g) {x : Task} (hx : IsFresh x)
    (hh : g.has x.id = false) (ht : g.tombed x.id = false) {more : List Event} (hm : ∀ e ∈ more, IsUpdateFor x.id e) :
    ∃ g', replayRaw (applyWrite log (.append (evOf x :: more))) = .ok g' ∧ g'.find? x.id = some (more.foldl stepTask x) := by
  have hap := applyEvent_evOf g x hx ht hh
  refine ⟨_, replayRaw_applyAppend hg ((foldlM_cons_ok _ hap).trans
    (foldlM_updates _ x.id more ht hm)),
    Graph.update_find?_self ?_ (foldl_stepTask_id more)⟩
  have hnone : g.tasks.find? (·.id == x.id) = none := Graph.find?_eq_none_iff.2 hh
  simp [Graph.find?, List.find?_append, hnone]

theorem create_sec_reply (log : List Event) (g : Graph) (hg : replayRaw log = .ok g) (hinv : AllInv g)
    (env : Env) (henv : EnvOK g env) (isEpic : Bool) (epicId title body : String) (follow : SetReq) (w : Write) (o : SecOut)
    (htitle : Text.isBlank title = false)
    (hfo : follow.u.title = none ∧ follow.u.body = none ∧ follow.u.epic = none)
    (hr : runSec log env (.create isEpic epicId title body follow) = .ok (w, o)) (i : RawInput) (isTask : Bool) :
    ∃ g' t', replay (applyWrite log w) = .ok g' ∧ o.created = some t'.id ∧ g'.find? t'.id = some t' ∧
      replyOf env (if isTask then .newTask i else .newEpic i) { err := none, log := applyWrite log w, write := some w, out := o } =
        some (.created t'.isEpic t'.id t'.uuid t'.epicId t'.st t'.title t'.body t'.createdAt) := by
  obtain ⟨id, more, -, hh, ht, hc, hspec⟩ := runSec_create_spec hg hinv hr
  generalize hx : freshTask isEpic id (env.uuids.headD "") (if isEpic then "" else epicId) title body env.now = x at hspec
  obtain ⟨rfl, hmore, hg', hinv'⟩ := hspec
  obtain rfl : x.id = id := by rw [← hx]; rfl
  have hfresh : IsFresh x := hx ▸ isFresh_freshTask ..
  have hupd : ∀ e ∈ more, IsUpdateFor x.id e := fun e he => (updateEvents_mem hmore e he).isUpdateFor
  -- the item as the store holds it, and as the command's own events replay it (where the reply's `state` comes from)
  obtain ⟨g1, h1, hf1⟩ := replayRaw_create_find hg hfresh hh ht hupd
  obtain ⟨g2, h2, hf2⟩ := replayRaw_create_find (log := []) (g := Graph.empty) rfl hfresh rfl rfl hupd
  cases hg'.symm.trans h1
  obtain ⟨k1, k2, k3⟩ := foldl_setEv_text (updateEvents_mem hmore) hfo x
  have hid := foldl_stepTask_id more x
  refine ⟨_, more.foldl stepTask x, replay_eq_raw hg' (hinv' htitle henv).ok, hid.symm ▸ hc, by rw [hid]; exact hf1, ?_⟩
  rw [foldl_stepTask_isEpic, hid, foldl_stepTask_uuid, foldl_stepTask_createdAt, k1, k2, k3]
  simp only [applyWrite, List.nil_append, evOf] at h2
  cases isTask <;> simp [replyOf, hc, Write.appended, evOf, h2, hf2]

end Ergo
