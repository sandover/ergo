/-
  The regenerated tables (ErgoModel/Generated/Facts.lean, rewritten from /repo on every run) agree with
  the documented ones.  If /repo's tables change, these stop compiling.
-/
import ErgoProofs.Spec
namespace Ergo

theorem gen_clearsClaim : Gen.clearsClaim = ["todo", "done", "canceled"] := rfl
theorem gen_validStates : Gen.validStates = ["todo", "doing", "done", "blocked", "canceled", "error"] := rfl
theorem gen_replayCases : Gen.replayCases =
    ["body", "claim", "epic", "link", "new_epic", "new_task", "result", "state", "title", "tombstone", "unclaim", "unlink"] := rfl

/-! The model compares `St.ofString` of a table entry with a state.  Each table is read as states once (`gen_…_st`, the only
    place where strings are evaluated); the case sweeps below then run on constructors. -/

theorem any_ofString (l : List String) (s : St) : l.any (St.ofString · == s) = (l.map St.ofString).any (· == s) := by
  rw [List.any_map]; rfl

theorem gen_clearsClaim_st : Gen.clearsClaim.map St.ofString = [.todo, .done, .canceled] := by decide +kernel
theorem gen_validStates_st : Gen.validStates.map St.ofString = [.todo, .doing, .done, .blocked, .canceled, .error] := by decide +kernel
theorem gen_claimRequired_st : Gen.claimRequired.map St.ofString = [.doing, .error] := by decide +kernel
theorem gen_claimForbidden_st : Gen.claimForbidden.map St.ofString = [.todo, .done, .canceled] := by decide +kernel
theorem gen_validTransitions_st :
    Gen.validTransitions.map (fun p => (St.ofString p.1, p.2.map St.ofString)) =
      [(.todo, [.doing, .done, .blocked, .canceled]), (.doing, [.todo, .done, .blocked, .canceled, .error]),
       (.blocked, [.todo, .doing, .done, .canceled]), (.done, [.todo]), (.canceled, [.todo]),
       (.error, [.todo, .doing, .canceled])] := by decide +kernel

theorem clearsClaim_gen (s : St) : s.clearsClaim = Gen.clearsClaim.any (St.ofString · == s) := by
  rw [any_ofString, gen_clearsClaim_st]; cases s <;> rfl

theorem valid_gen (s : St) : s.valid = Gen.validStates.any (St.ofString · == s) := by
  rw [any_ofString, gen_validStates_st]; cases s <;> rfl

theorem validTransition_eq (a b : St) : validTransition a b = (a == b || docTransition a b) := by
  have h : validTransition a b = (a == b || (Gen.validTransitions.map fun p => (St.ofString p.1, p.2.map St.ofString)).any
      fun p => p.1 == a && p.2.any (· == b)) := by
    simp only [validTransition, List.any_map, Function.comp_def]
  rw [h, gen_validTransitions_st]
  cases a <;> cases b <;> rfl

theorem claimInvariantOk_eq (s : St) (c : String) : claimInvariantOk s c = docClaimOk s c := by
  simp only [claimInvariantOk, any_ofString, gen_claimRequired_st, gen_claimForbidden_st]
  cases s <;> rfl

end Ergo
