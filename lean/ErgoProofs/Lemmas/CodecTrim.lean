/-
  `bytes.TrimSpace` on lines: a text `{…}` is left alone; of a text that starts with `{` a non-empty prefix starting with `{` remains.
  What is stripped is bounded (`strip_spec`: ASCII white space and bytes ≥ 0x80 only) and stops at an ASCII non-space (`strip_stop`);
  that white space does go is not stated (the lines ergo writes are `{…}`).
-/
import ErgoProofs.Lemmas.CodecObj
open Ergo Ergo.Storage
namespace Ergo.Codec

/-- the table `trimRightB` strips the reversed text with -/
def revSpaces : List Bytes := wideSpaces.map List.reverse

theorem wide_bytes_ge : ∀ w ∈ wideSpaces, ∀ b ∈ w, (128 : UInt8) ≤ b := by decide
theorem rev_bytes_ge : ∀ w ∈ revSpaces, ∀ b ∈ w, (128 : UInt8) ≤ b := by decide

theorem isAsciiSpace_lt (b : UInt8) (h : isAsciiSpace b = true) : b < 128 := by
  simp only [isAsciiSpace, decide_eq_true_eq] at h
  rw [UInt8.lt_iff_toNat_lt]
  rcases h with rfl | ⟨_, h2⟩
  · decide
  · have := UInt8.le_iff_toNat_le.1 h2; simp at this ⊢; omega

theorem strip_spec (table : List Bytes) (ht : ∀ w ∈ table, ∀ b ∈ w, (128 : UInt8) ≤ b) (f : Nat) (s : Bytes) :
    ∃ pre, s = pre ++ stripSpaces table f s ∧ ∀ b ∈ pre, isAsciiSpace b = true ∨ (128 : UInt8) ≤ b := by
  fun_induction stripSpaces table f s with
  | case1 | case2 | case5 => exact ⟨[], rfl, by simp⟩
  | case3 f b r hb ih =>
    obtain ⟨pre, hp, hall⟩ := ih
    exact ⟨b :: pre, by rw [List.cons_append, ← hp], List.forall_mem_cons.2 ⟨.inl hb, hall⟩⟩
  | case4 f b r hb w hfind ih =>
    obtain ⟨pre, hp, hall⟩ := ih
    have hw := List.find?_some hfind
    obtain ⟨t, ht'⟩ := List.isPrefixOf_iff_prefix.1 hw
    rw [← ht', List.drop_left] at hp ⊢
    exact ⟨w ++ pre, by rw [List.append_assoc, ← hp],
      List.forall_mem_append.2 ⟨fun x hx => .inr (ht w (List.mem_of_find?_eq_some hfind) x hx), hall⟩⟩

theorem strip_stop (table : List Bytes) (ht : ∀ w ∈ table, ∀ b ∈ w, (128 : UInt8) ≤ b) (f : Nat) (b : UInt8) (r : Bytes)
    (h1 : isAsciiSpace b = false) (h2 : b < 128) : stripSpaces table f (b :: r) = b :: r := by
  obtain ⟨pre, hp, hall⟩ := strip_spec table ht f (b :: r)
  cases pre with
  | nil => exact hp.symm
  | cons c pre' =>
    injection hp with hc _
    rcases hall c (by simp) with h | h
    · rw [← hc, h1] at h; cases h
    · exact absurd (hc ▸ h) (UInt8.not_le.2 h2)

theorem trimLeftB_lbrace (q : Bytes) : trimLeftB (123 :: q) = 123 :: q :=
  strip_stop wideSpaces wide_bytes_ge _ 123 q (by decide) (by decide)

theorem trimRightB_spec (s : Bytes) : ∃ suf, s = trimRightB s ++ suf ∧ ∀ b ∈ suf, isAsciiSpace b = true ∨ (128 : UInt8) ≤ b := by
  obtain ⟨pre, hp, hall⟩ := strip_spec revSpaces rev_bytes_ge (s.length + 1) s.reverse
  refine ⟨pre.reverse, ?_, fun b hb => hall b (List.mem_reverse.1 hb)⟩
  have := congrArg List.reverse hp
  rwa [List.reverse_reverse, List.reverse_append] at this

theorem trimSpaceB_lbrace (q : Bytes) : ∃ t, trimSpaceB (123 :: q) = 123 :: t ∧ (123 :: t) <+: (123 :: q) := by
  obtain ⟨suf, hs, hall⟩ := trimRightB_spec (123 :: q)
  unfold trimSpaceB; rw [trimLeftB_lbrace]
  cases ht : trimRightB (123 :: q) with
  | nil =>
    rw [ht, List.nil_append] at hs
    rcases hall 123 (by rw [← hs]; simp) with h | h <;> exact absurd h (by decide)
  | cons c t =>
    rw [ht, List.cons_append] at hs
    injection hs with hc hq
    exact ⟨t, by rw [← hc], suf, by rw [List.cons_append, ← hq]⟩

theorem trimSpaceB_braces (mid : Bytes) : trimSpaceB (123 :: (mid ++ [125])) = 123 :: (mid ++ [125]) := by
  unfold trimSpaceB; rw [trimLeftB_lbrace]
  unfold trimRightB
  have : (123 :: (mid ++ [125])).reverse = 125 :: (mid.reverse ++ [123]) := by simp
  change (stripSpaces revSpaces _ _).reverse = _
  rw [this, strip_stop revSpaces rev_bytes_ge _ 125 _ (by decide) (by decide)]
  simp

end Ergo.Codec
