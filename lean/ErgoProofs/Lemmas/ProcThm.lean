/-
  Concurrent processes (ErgoModel/Proc.lean; C01, C02, C13): one invariant of every reachable state (`Inv`, `inv_reachable`), whose fields
  the property theorems are.  Two halves: what the writers' phases and the lock say (`WritersInv`; every writer step re-establishes it at the
  one writer that moves, `WritersInv.step`), and what files, ghost lists and readers say (`StoreInv`; in `inv_step` only the `write` case,
  `inv_write`, and the two reader cases have anything to show for it).  What a single step leaves unchanged is read off the constructors
  there and nowhere stated as a lemma.  Last, `claim` as such a writer (`claimDecide`): what a committed claim was decided on (`claim_outcome`).
-/
import ErgoModel.Proc
import ErgoProofs.Lemmas.ListAux
namespace Ergo.Proc

/-- the log after the first `n` committed sections, starting from `log0` -/
def logAfter (log0 : List Event) (commits : List (Nat × List Event × Write)) (n : Nat) : List Event :=
  (commits.take n).foldl (fun l c => applyWrite l c.2.2) log0

variable {log0 : List Event} {ws : List (List Event → Except CmdErr Write)} {nr : Nat} {s : Sys}

section
variable {cs : List (Nat × List Event × Write)}

theorem logAfter_zero (log0 : List Event) (cs : List (Nat × List Event × Write)) : logAfter log0 cs 0 = log0 := by
  simp [logAfter]

theorem logAfter_append_le {c : Nat × List Event × Write} {k : Nat} (h : k ≤ cs.length) :
    logAfter log0 (cs ++ [c]) k = logAfter log0 cs k := by
  simp [logAfter, List.take_append_of_le_length h]

theorem logAfter_succ {i : Nat} {c : Nat × List Event × Write} (h : cs[i]? = some c) :
    logAfter log0 cs (i + 1) = applyWrite (logAfter log0 cs i) c.2.2 := by
  simp [logAfter, List.take_add_one, h, List.foldl_append]

theorem logAfter_snoc (log0 : List Event) (cs : List (Nat × List Event × Write)) (c : Nat × List Event × Write) :
    logAfter log0 (cs ++ [c]) (cs ++ [c]).length = applyWrite (logAfter log0 cs cs.length) c.2.2 := by
  rw [logAfter, List.take_length, List.foldl_append, logAfter, List.take_length]; rfl

theorem logAfter_le {i j : Nat} (h : i ≤ j) :
    logAfter log0 cs j = ((cs.take j).drop i).foldl (fun l c => applyWrite l c.2.2) (logAfter log0 cs i) := by
  rw [logAfter, logAfter, ← List.foldl_append]
  conv => lhs; rw [← List.take_append_drop i (cs.take j), List.take_take, Nat.min_eq_left h]

/-- every value the log has had, oldest first -/
def logs (log0 : List Event) (cs : List (Nat × List Event × Write)) : List (List Event) :=
  cs.scanl (fun l c => applyWrite l c.2.2) log0

theorem length_logs : (logs log0 cs).length = cs.length + 1 := List.length_scanl

theorem getElem?_logs {k : Nat} (h : k ≤ cs.length) : (logs log0 cs)[k]? = some (logAfter log0 cs k) :=
  List.getElem?_scanl.trans (if_pos h)

theorem mem_logs {l : List Event} : l ∈ logs log0 cs ↔ ∃ k, k ≤ cs.length ∧ l = logAfter log0 cs k := by
  simp [logs, logAfter, List.mem_iff_getElem?, List.getElem?_scanl, eq_comm]

theorem logs_snoc (log0 : List Event) (cs : List (Nat × List Event × Write)) (c : Nat × List Event × Write) :
    logs log0 (cs ++ [c]) = logs log0 cs ++ [applyWrite (logAfter log0 cs cs.length) c.2.2] := by
  simp [logs, logAfter, List.scanl_append]

end

/-- in this form the other fields are those of `s` by `rfl`, which `WritersInv.step … rfl` needs in `inv_write` -/
theorem writeLog_frame (s : Sys) (wr : Write) :
    writeLog s wr =
      { s with inodes := (writeLog s wr).inodes, cur := (writeLog s wr).cur, history := s.history ++ [applyWrite s.log wr] } := by
  cases wr <;> rfl

theorem writeLog_log (s : Sys) (wr : Write) (hc : s.cur < s.inodes.length) : (writeLog s wr).log = applyWrite s.log wr := by
  cases wr <;> simp [writeLog, Sys.log, applyWrite, List.getD_eq_getElem?_getD, hc]

theorem writeLog_cur (s : Sys) (wr : Write) (hc : s.cur < s.inodes.length) : (writeLog s wr).cur < (writeLog s wr).inodes.length := by
  cases wr <;> simp [writeLog, hc]

theorem writeLog_len (s : Sys) (wr : Write) : s.inodes.length ≤ (writeLog s wr).inodes.length := by
  cases wr <;> simp [writeLog]

theorem writeLog_inodes (s : Sys) (wr : Write) : ∀ l ∈ (writeLog s wr).inodes, l ∈ s.inodes ∨ l = applyWrite s.log wr := by
  intro l hl
  cases wr with
  | append evs => exact List.mem_or_eq_of_mem_set hl
  | replace evs => simpa [writeLog, applyWrite] using hl

/-- between lock and unlock -/
def Phase.active : Phase → Prop
  | .locked | .read _ | .wrote _ _ | .erred _ _ => True
  | _ => False

theorem Phase.active_iff (ph : Phase) :
    ph.active ↔ (ph = .locked ∨ (∃ snap, ph = .read snap) ∨ (∃ snap wr, ph = .wrote snap wr) ∨ (∃ snap e, ph = .erred snap e)) := by
  cases ph <;> simp [Phase.active]

/-- what a writer's phase says about the commit list and the log -/
def PhaseOK (d : List Event → Except CmdErr Write) (log : List Event) (commits : List (Nat × List Event × Write)) (p : Nat) :
    Phase → Prop
  | .start | .locked | .finished .busy => ∀ c ∈ commits, c.1 ≠ p
  | .read snap => snap = log ∧ ∀ c ∈ commits, c.1 ≠ p
  | .erred snap e | .finished (.failed snap e) => d snap = .error e ∧ ∀ c ∈ commits, c.1 ≠ p
  | .wrote snap wr | .finished (.ok snap wr) => (p, snap, wr) ∈ commits
  | .crashed => True

theorem phaseOK_mono {d : List Event → Except CmdErr Write} {log log' : List Event} {cs : List (Nat × List Event × Write)}
    {c : Nat × List Event × Write} {q : Nat} {ph : Phase} (hc : c.1 ≠ q) (hr : ∀ snap, ph ≠ .read snap)
    (h : PhaseOK d log cs q ph) : PhaseOK d log' (cs ++ [c]) q ph := by
  have key : (∀ c' ∈ cs, c'.1 ≠ q) → ∀ c' ∈ cs ++ [c], c'.1 ≠ q := fun h0 =>
    List.forall_mem_append.2 ⟨h0, fun c' h1 => List.mem_singleton.1 h1 ▸ hc⟩
  cases ph with
  | read snap => exact absurd rfl (hr snap)
  | start | locked => exact key h
  | wrote snap wr => exact List.mem_append_left _ h
  | erred snap e => exact ⟨h.1, key h.2⟩
  | finished o =>
    cases o with
    | busy => exact key h
    | failed snap e => exact ⟨h.1, key h.2⟩
    | ok snap wr => exact List.mem_append_left _ h
  | crashed => trivial

structure WritersInv (ws : List (List Event → Except CmdErr Write)) (s : Sys) : Prop where
  dec : ∀ (p : Nat) (w : Writer), s.writers[p]? = some w → ws[p]? = some w.decide
  excl : ∀ (p : Nat) (w : Writer), s.writers[p]? = some w → (s.holder = some p ↔ w.phase.active)
  phase : ∀ (p : Nat) (w : Writer), s.writers[p]? = some w → PhaseOK w.decide s.log s.commits p w.phase

structure StoreInv (log0 : List Event) (ws : List (List Event → Except CmdErr Write)) (s : Sys) : Prop where
  cur : s.cur < s.inodes.length
  log : s.log = logAfter log0 s.commits s.commits.length
  hist : s.history = logs log0 s.commits
  /-- each commit was decided by its writer on the log its predecessors left -/
  com : ∀ (i p : Nat) (snap : List Event) (w : Write), s.commits[i]? = some (p, snap, w) →
    snap = logAfter log0 s.commits i ∧ ∃ d, ws[p]? = some d ∧ d snap = .ok w
  /-- a writer commits at most once -/
  once : s.commits.Pairwise fun c c' => c.1 ≠ c'.1
  /-- every file holds a value the log has had -/
  ino : ∀ l ∈ s.inodes, l ∈ s.history
  rdOpen : ∀ i, RPhase.opened i ∈ s.readers → i < s.inodes.length
  rdDone : ∀ seen, RPhase.done seen ∈ s.readers → seen ∈ s.history

structure Inv (log0 : List Event) (ws : List (List Event → Except CmdErr Write)) (s : Sys) : Prop
  extends WritersInv ws s, StoreInv log0 ws s

theorem WritersInv.of_phase (hi : WritersInv ws s) {p : Nat} {w : Writer} {ph : Phase} (hw : s.writers[p]? = some w) (hph : w.phase = ph) :
    (s.holder = some p ↔ ph.active) ∧ PhaseOK w.decide s.log s.commits p ph :=
  hph ▸ ⟨hi.excl p w hw, hi.phase p w hw⟩

theorem WritersInv.step (hi : WritersInv ws s) {s' : Sys} {p : Nat} {w : Writer} {ph : Phase} (hw : s.writers[p]? = some w)
    (hws : s'.writers = s.writers.modify p fun w => { w with phase := ph })
    (hp : s'.holder = some p ↔ ph.active) (hq : ∀ q, q ≠ p → (s'.holder = some q ↔ s.holder = some q))
    (hok : PhaseOK w.decide s'.log s'.commits p ph)
    (hmono : ∀ q w', q ≠ p → s.writers[q]? = some w' → PhaseOK w'.decide s'.log s'.commits q w'.phase) : WritersInv ws s' where
  dec := hws ▸ forall_modify hw (hi.dec p w hw) fun q w' _ => hi.dec q w'
  excl := hws ▸ forall_modify hw hp fun q w' hne h => (hq q hne).trans (hi.excl q w' h)
  phase := hws ▸ forall_modify hw hok hmono

theorem inv_setPhase (hi : Inv log0 ws s) {p : Nat} {w : Writer} {ph : Phase} {h' : Option Nat} (hw : s.writers[p]? = some w)
    (hok : PhaseOK w.decide s.log s.commits p ph)
    (hp : h' = some p ↔ ph.active) (hq : ∀ q, q ≠ p → (h' = some q ↔ s.holder = some q)) :
    Inv log0 ws { setPhase s p ph with holder := h' } :=
  { hi.toStoreInv with toWritersInv := hi.toWritersInv.step hw rfl hp hq hok fun q w' _ h => hi.phase q w' h }

theorem inv_setReader (hi : Inv log0 ws s) (r : Nat) {ph : RPhase}
    (h1 : ∀ i, .opened i = ph → i < s.inodes.length) (h2 : ∀ seen, .done seen = ph → seen ∈ s.history) :
    Inv log0 ws (setReader s r ph) :=
  { hi with
    rdOpen := fun i h => (List.mem_or_eq_of_mem_set h).elim (hi.rdOpen i) (h1 i)
    rdDone := fun seen h => (List.mem_or_eq_of_mem_set h).elim (hi.rdDone seen) (h2 seen) }

theorem init_writer {p : Nat} {w : Writer} (h : (Sys.init log0 ws nr).writers[p]? = some w) :
    ws[p]? = some w.decide ∧ w.phase = .start := by
  simp only [Sys.init, List.getElem?_map, Option.map_eq_some_iff] at h
  obtain ⟨d, hd, rfl⟩ := h
  exact ⟨hd, rfl⟩

theorem inv_init : Inv log0 ws (Sys.init log0 ws nr) where
  dec p w h := (init_writer h).1
  excl p w h := by rw [(init_writer h).2]; exact ⟨nofun, False.elim⟩
  phase p w h := by rw [(init_writer h).2]; exact nofun
  cur := Nat.zero_lt_one
  log := rfl
  hist := rfl
  com i p snap w h := nomatch h
  once := .nil
  ino l hl := hl
  rdOpen i h := nomatch List.eq_of_mem_replicate h
  rdDone seen h := nomatch List.eq_of_mem_replicate h

/-- the `write` step: the writer holds the lock, so its snapshot is still the log -/
theorem inv_write (hi : Inv log0 ws s) {p : Nat} {w : Writer} {snap : List Event} {wr : Write}
    (hw : s.writers[p]? = some w) (hph : w.phase = .read snap) (hd : w.decide snap = .ok wr) :
    Inv log0 ws { setPhase (writeLog s wr) p (.wrote snap wr) with commits := s.commits ++ [(p, snap, wr)] } := by
  obtain ⟨hex, hsnap, hnot⟩ := hi.of_phase hw hph
  have hholder : s.holder = some p := hex.2 trivial
  rw [writeLog_frame]
  refine
    { toWritersInv := hi.toWritersInv.step hw rfl ⟨fun _ => trivial, fun _ => hholder⟩ (fun _ _ => Iff.rfl)
        (List.mem_append_right _ (List.mem_singleton_self _)) fun q w' hne h => ?_
      cur := writeLog_cur s wr hi.cur
      log := (writeLog_log s wr hi.cur).trans (hi.log ▸ (logAfter_snoc log0 s.commits (p, snap, wr)).symm)
      hist := by rw [logs_snoc, ← hi.log, ← hi.hist]; rfl
      com := fun i q snap' w' h => ?_
      once := List.pairwise_append.2 ⟨hi.once, List.pairwise_singleton _ _, fun c hc c' hc' => List.mem_singleton.1 hc' ▸ hnot c hc⟩
      ino := fun l hl => List.mem_append.2 ((writeLog_inodes s wr l hl).imp (hi.ino l) List.mem_singleton.2)
      rdOpen := fun i h => Nat.lt_of_lt_of_le (hi.rdOpen i h) (writeLog_len s wr)
      rdDone := fun seen h => List.mem_append_left _ (hi.rdDone seen h) }
  · -- another writer with a snapshot in hand would hold the lock too
    refine phaseOK_mono (Ne.symm hne) (fun snap' hr => hne ?_) (hi.phase q w' h)
    exact Option.some.inj (((hi.excl q w' h).2 (hr ▸ trivial)).symm.trans hholder)
  · have hle : i ≤ s.commits.length := Nat.le_of_lt_succ (by simpa using (List.getElem?_eq_some_iff.1 h).1)
    rw [logAfter_append_le hle]
    rcases Nat.lt_or_eq_of_le hle with hlt | rfl
    · exact hi.com i q snap' w' (List.getElem?_append_left hlt ▸ h)
    · cases List.getElem?_concat_length.symm.trans h
      exact ⟨hsnap.trans hi.log, w.decide, hi.dec p w hw, hd⟩

theorem inv_step {s s' : Sys} (hi : Inv log0 ws s) (st : Step s s') : Inv log0 ws s' := by
  cases st with
  | lockOk p w hw hph hh =>
    exact inv_setPhase hi hw (hi.of_phase hw hph).2 ⟨fun _ => trivial, fun _ => rfl⟩ fun q hq => by simp [hh, Ne.symm hq]
  | lockBusy p w q hw hph hh =>
    obtain ⟨hex, hok⟩ := hi.of_phase hw hph
    exact inv_setPhase hi hw hok ⟨hex.1, False.elim⟩ fun _ _ => Iff.rfl
  | read p w hw hph =>
    obtain ⟨hex, hok⟩ := hi.of_phase hw hph
    exact inv_setPhase hi hw ⟨rfl, hok⟩ ⟨fun _ => trivial, fun _ => hex.2 trivial⟩ fun _ _ => Iff.rfl
  | decideErr p w snap e hw hph hd =>
    obtain ⟨hex, hok⟩ := hi.of_phase hw hph
    exact inv_setPhase hi hw ⟨hd, hok.2⟩ ⟨fun _ => trivial, fun _ => hex.2 trivial⟩ fun _ _ => Iff.rfl
  | write p w snap wr hw hph hd => exact inv_write hi hw hph hd
  | unlockOk p w snap _ hw hph | unlockErr p w snap _ hw hph =>
    obtain ⟨hex, hok⟩ := hi.of_phase hw hph
    exact inv_setPhase hi hw hok ⟨nofun, False.elim⟩ fun q hq => by simp [hex.2 trivial, Ne.symm hq]
  | crash p w hw hnf hnc =>
    -- an unlock if it held the lock, otherwise nothing but its phase changes
    by_cases hh : s.holder = some p
    · rw [if_pos hh]; exact inv_setPhase hi hw trivial ⟨nofun, False.elim⟩ fun q hq => by simp [hh, Ne.symm hq]
    · rw [if_neg hh]; exact inv_setPhase hi hw trivial ⟨hh.elim, False.elim⟩ fun _ _ => Iff.rfl
  | rOpen r hr => exact inv_setReader hi r (fun i h => RPhase.opened.inj h ▸ hi.cur) nofun
  | rRead r i hr =>
    refine inv_setReader hi r nofun fun seen h => RPhase.done.inj h ▸ hi.ino _ ?_
    rw [List.getD_eq_getElem?_getD, List.getElem?_eq_getElem (hi.rdOpen i (List.mem_of_getElem? hr))]
    exact List.getElem_mem _

theorem inv_reachable (h : Reachable (Sys.init log0 ws nr) s) : Inv log0 ws s := by
  induction h with
  | refl => exact inv_init
  | tail _ st ih => exact inv_step ih st

/-- what `claim` decides, as a writer of `Proc` -/
def claimDecide (agent epic : String) (now : Time) : List Event → Except CmdErr Write := fun log =>
  match replay log with
  | .error e => .error (.replay e)
  | .ok g => (secClaimOldest g epic agent now).map (·.1)

theorem claimDecide_spec (agent epic : String) (now : Time) (snap : List Event) :
    (∀ w, claimDecide agent epic now snap = .ok w → ∃ g t rest, replay snap = .ok g ∧ readyTasks g epic = t :: rest ∧
      w = .append [Event.claim t.id agent (some now), Event.state t.id .doing (some now)]) ∧
    (claimDecide agent epic now snap = .error .noReady → ∃ g, replay snap = .ok g ∧ readyTasks g epic = []) := by
  unfold claimDecide secClaimOldest
  cases hg : replay snap with
  | error e => exact ⟨nofun, nofun⟩
  | ok g =>
    dsimp only
    cases hr : readyTasks g epic with
    | nil => exact ⟨nofun, fun _ => ⟨g, rfl, hr⟩⟩
    | cons t rest => exact ⟨fun w h => ⟨g, t, rest, rfl, hr, (Except.ok.inj h).symm⟩, nofun⟩

theorem claim_outcome (h : Reachable (Sys.init log0 ws nr) s) (i p : Nat) (snap : List Event) (w : Write)
    (agent epic : String) (now : Time) (hd : ws[p]? = some (claimDecide agent epic now))
    (hc : s.commits[i]? = some (p, snap, w)) :
    snap = logAfter log0 s.commits i ∧
    ∃ g t rest, replay snap = .ok g ∧ readyTasks g epic = t :: rest ∧
      w = .append [Event.claim t.id agent (some now), Event.state t.id .doing (some now)] := by
  obtain ⟨hsnap, d, hd', hdw⟩ := (inv_reachable h).com i p snap w hc
  cases hd.symm.trans hd'
  exact ⟨hsnap, (claimDecide_spec agent epic now snap).1 w hdw⟩

end Ergo.Proc
