/-
  Replay (ErgoModel/Replay.lean) step by step: every successful step is one of six graph operations, each known with the event that did
  it (`ReplayStep`, `applyEvent_cases`), so every replayed graph is `WF` and a pruned id stays pruned (`tombstone_gone`, C09; what
  tombstones keep of items and edges: `foldl_applyTombstone_mem`).  `migrate` keeps ids, edges and pruned ids, and is the identity on a
  store whose items have titles (`replay_eq_raw`).
-/
import ErgoProofs.Lemmas.TaskStep
import ErgoProofs.Lemmas.OkAll
namespace Ergo

theorem replayRaw_append (l e : List Event) :
    replayRaw (l ++ e) = (replayRaw l).bind fun g => e.foldlM applyEvent g := by
  simp only [replayRaw, List.foldlM_append]
  rfl

theorem replayRaw_applyAppend {log evs : List Event} {g g' : Graph} (hr : replayRaw log = .ok g)
    (h : evs.foldlM applyEvent g = .ok g') : replayRaw (applyWrite log (.append evs)) = .ok g' := by
  simp only [applyWrite]; rw [replayRaw_append, hr]; exact h

theorem WF_empty : WF Graph.empty := by
  refine ⟨?_, ?_, ?_, ?_⟩ <;> simp [Graph.empty]

theorem WF_map {g : Graph} {f : Task → Task} (hf : ∀ k, (f k).id = k.id) (h : WF g) : WF { g with tasks := g.tasks.map f } := by
  have hids : (g.tasks.map f).map (·.id) = g.tasks.map (·.id) := by
    rw [List.map_map]; exact List.map_congr_left fun t _ => hf t
  refine ⟨hids ▸ h.nodup, ?_, h.deps_not_tombed, h.deps_nodup⟩
  intro t ht
  obtain ⟨k, hk, rfl⟩ := List.mem_map.1 ht
  exact hf k ▸ h.live_not_tombed k hk

theorem WF_update {g : Graph} {id : Id} {f : Task → Task} (hf : ∀ k, (f k).id = k.id) (h : WF g) :
    WF (g.update id f) :=
  WF_map (Graph.update_keeps_id hf) h

theorem mem_applyTombstone_tombs {g : Graph} {id i : Id} : i ∈ (applyTombstone g id).tombs ↔ i ∈ g.tombs ∨ i = id := by
  simp only [applyTombstone]
  split
  · next hc => exact ⟨.inl, fun h => h.elim (fun h' => h') fun e => e ▸ List.contains_iff_mem.1 hc⟩
  · simp

theorem WF_applyTombstone {g : Graph} {id : Id} (h : WF g) : WF (applyTombstone g id) := by
  refine ⟨h.nodup.sublist (List.Sublist.map _ List.filter_sublist), ?_, ?_, h.deps_nodup.sublist List.filter_sublist⟩
  · intro t ht hi
    have ht' := List.mem_filter.1 ht
    rcases mem_applyTombstone_tombs.1 hi with h1 | h1
    · exact h.live_not_tombed t ht'.1 h1
    · simp [h1] at ht'
  · intro e he
    have he' := List.mem_filter.1 he
    have hd := h.deps_not_tombed e he'.1
    have h2 : e.1 ≠ id ∧ e.2 ≠ id := by simpa using he'.2
    exact ⟨fun hi => (mem_applyTombstone_tombs.1 hi).elim hd.1 h2.1, fun hi => (mem_applyTombstone_tombs.1 hi).elim hd.2 h2.2⟩

theorem foldl_applyTombstone_mem (g : Graph) (ids : List Id) :
    (∀ t, t ∈ (ids.foldl applyTombstone g).tasks ↔ t ∈ g.tasks ∧ t.id ∉ ids) ∧
    (∀ e, e ∈ (ids.foldl applyTombstone g).deps ↔ e ∈ g.deps ∧ e.1 ∉ ids ∧ e.2 ∉ ids) := by
  induction ids generalizing g with
  | nil => simp
  | cons i is ih =>
    obtain ⟨h1, h2⟩ := ih (applyTombstone g i)
    refine ⟨fun t => ?_, fun e => ?_⟩
    · rw [List.foldl_cons, h1]
      simp only [applyTombstone, List.mem_filter, bne_iff_ne, ne_eq, List.mem_cons, not_or, and_assoc]
    · rw [List.foldl_cons, h2, List.mem_cons, List.mem_cons, not_or, not_or, and_and_and_comm]
      simp only [applyTombstone, List.mem_filter, bne_iff_ne, ne_eq, Bool.and_eq_true, and_assoc]

/-- the six things a successful step of replay does to the graph, each with the event that does it (whose item, which edge); the seven
    kinds of update event are one of them -/
inductive ReplayStep (g : Graph) (e : Event) : Graph → Prop
  | skip : ReplayStep g e g
  | update (id : Id) : IsUpdateFor id e → ReplayStep g e (g.update id (stepTask · e))
  | newItem {isEpic id uuid epicId st title body c} : e = .newItem isEpic id uuid epicId st title body (some c) →
      id ∉ g.tombs → (∀ t ∈ g.tasks, t.id ≠ id) →
      ReplayStep g e { g with tasks := g.tasks ++ [newTask isEpic id uuid epicId st title body c] }
  | link {f t : Id} : e = .link f t true → f ∉ g.tombs → t ∉ g.tombs → (f, t) ∉ g.deps →
      ReplayStep g e { g with deps := g.deps ++ [(f, t)] }
  | unlink {f t : Id} : e = .unlink f t true → ReplayStep g e { g with deps := g.deps.filter (· != (f, t)) }
  | tombstone (id : Id) {agent : Id} {ts : Time} : e = .tombstone id agent (some ts) → ReplayStep g e (applyTombstone g id)

theorem applyEvent_cases {g : Graph} {e : Event} : OkAll (ReplayStep g e) (applyEvent g e) := by
  cases e with
  | newItem isEpic id uuid epicId st title body createdAt =>
    refine .ite (fun _ => .ok .skip) fun ht => .ite (fun _ => .error) fun hh => ?_
    cases createdAt with
    | none => exact .error
    | some c =>
      exact .ok (.newItem rfl (Graph.tombed_false_iff.1 (Bool.eq_false_iff.2 ht)) (Graph.has_false_iff.1 (Bool.eq_false_iff.2 hh)))
  | state id _ ts | claim id _ ts | title id _ ts | body id _ ts | epic id _ ts | result id _ _ _ _ _ ts =>
    refine .ite (fun _ => .ok .skip) fun _ => .ite (fun _ => .ok .skip) fun _ => ?_
    cases ts with
    | none => exact .error
    | some t => exact .ok (.update id rfl)
  | unclaim id => exact .ite (fun _ => .ok .skip) fun _ => .ok (.update id rfl)
  | link f t dep =>
    refine .ite (fun _ => .ok .skip) fun hc => .ite (fun _ => .ok .skip) fun hd => ?_
    cases dep
    · exact absurd (Bool.or_true _) hc
    simp only [Graph.tombed, Bool.or_eq_true, not_or, List.contains_iff_mem] at hc
    exact .ok (.link rfl hc.1.1 hc.1.2 (by simpa using hd))
  | unlink f t dep =>
    refine .ite (fun _ => .ok .skip) fun hc => ?_
    cases dep
    · exact absurd (Bool.or_true _) hc
    · exact .ok (.unlink rfl)
  | tombstone id agent ts =>
    cases ts with
    | none => exact .error
    | some t => exact .ok (.tombstone id rfl)
  | ignored => exact .ok .skip
  | badData => exact .error

theorem applyEvent_WF {g g' : Graph} {e : Event} (h : WF g) (he : applyEvent g e = .ok g') : WF g' := by
  cases applyEvent_cases _ he with
  | skip => exact h
  | update id => exact WF_update (fun k => stepTask_id k e) h
  | newItem _ hnt hnh =>
    refine ⟨?_, List.forall_mem_append.2 ⟨h.live_not_tombed, List.forall_mem_singleton.2 hnt⟩, h.deps_not_tombed, h.deps_nodup⟩
    rw [List.map_append]
    exact nodup_snoc.2 ⟨fun hm => let ⟨t, ht, e⟩ := List.mem_map.1 hm; hnh t ht e, h.nodup⟩
  | link _ hf ht hn =>
    exact ⟨h.nodup, h.live_not_tombed, List.forall_mem_append.2 ⟨h.deps_not_tombed, List.forall_mem_singleton.2 ⟨hf, ht⟩⟩,
      nodup_snoc.2 ⟨hn, h.deps_nodup⟩⟩
  | unlink =>
    exact ⟨h.nodup, h.live_not_tombed, fun e he => h.deps_not_tombed e (List.mem_filter.1 he).1, h.deps_nodup.sublist List.filter_sublist⟩
  | tombstone id => exact WF_applyTombstone h

theorem foldlM_WF {g g' : Graph} {evs : List Event} (h : WF g) (he : evs.foldlM applyEvent g = .ok g') : WF g' :=
  foldlM_preserves WF (fun _ _ _ _ => applyEvent_WF) h he

theorem replayRaw_WF {evs : List Event} {g : Graph} (h : replayRaw evs = .ok g) : WF g :=
  foldlM_WF WF_empty h

theorem migrateTask_id (t : Task) : (migrateTask t).id = t.id := by
  unfold migrateTask
  split <;> rfl

theorem migrate_find (g : Graph) (id : Id) : (migrate g).find? id = (g.find? id).map migrateTask :=
  Graph.map_find? g migrateTask migrateTask_id id

theorem migrate_has (g : Graph) (id : Id) : (migrate g).has id = g.has id := Graph.map_has g migrateTask migrateTask_id id

theorem migrate_deps (g : Graph) : (migrate g).deps = g.deps := rfl
theorem migrate_tombs (g : Graph) : (migrate g).tombs = g.tombs := rfl

theorem migrate_WF {g : Graph} (h : WF g) : WF (migrate g) := WF_map migrateTask_id h

theorem migrate_of_titled (g : Graph) (h : ∀ t ∈ g.tasks, Text.isBlank t.title = false) : migrate g = g :=
  Graph.map_eq_self g migrateTask fun t ht => by simp [migrateTask, h t ht]

theorem replay_eq_raw {log : List Event} {g : Graph} (hr : replayRaw log = .ok g) (h : GraphOK g) : replay log = .ok g := by
  rw [replay, hr]
  exact congrArg Except.ok (migrate_of_titled g fun t ht => (h.tasks t ht).titled)

theorem replay_ok {evs : List Event} : OkAll (fun g => ∃ g0, replayRaw evs = .ok g0 ∧ g = migrate g0) (replay evs) :=
  .map fun g0 h0 => ⟨g0, h0, rfl⟩

theorem replay_WF {evs : List Event} {g : Graph} (h : replay evs = .ok g) : WF g := by
  obtain ⟨g0, h0, rfl⟩ := replay_ok _ h
  exact migrate_WF (replayRaw_WF h0)

theorem applyEvent_tombs_mono {g g' : Graph} {e : Event} (he : applyEvent g e = .ok g') : ∀ i ∈ g.tombs, i ∈ g'.tombs := by
  cases applyEvent_cases _ he with
  | tombstone id => exact fun _ hi => mem_applyTombstone_tombs.2 (.inl hi)
  | _ => exact fun _ hi => hi

theorem foldlM_tombs_mono {g g' : Graph} {evs : List Event} (he : evs.foldlM applyEvent g = .ok g') :
    ∀ i ∈ g.tombs, i ∈ g'.tombs :=
  foldlM_preserves (fun a => ∀ i ∈ g.tombs, i ∈ a.tombs)
    (fun _ _ _ _ ha h1 i hi => applyEvent_tombs_mono h1 i (ha i hi)) (fun _ hi => hi) he

theorem foldlM_tombstone_mem {evs : List Event} {g0 g : Graph} {id agent : Id} {ts : Option Time}
    (hmem : Event.tombstone id agent ts ∈ evs) (h : evs.foldlM applyEvent g0 = .ok g) : id ∈ g.tombs := by
  obtain ⟨l1, l2, rfl⟩ := List.append_of_mem hmem
  revert g
  show OkAll (fun g : Graph => id ∈ g.tombs) _
  simp only [List.foldlM_append, List.foldlM_cons]
  -- before the tombstone; the tombstone (puts `id` among the pruned ids); the rest (`g`, `h`) keeps it there
  refine .bind fun g1 _ => .bind fun g2 h2 g h => foldlM_tombs_mono h id ?_
  cases ts with
  | none => cases h2
  | some t => cases h2; exact mem_applyTombstone_tombs.2 (.inr rfl)

/-- C09 "gone for good": once the log contains a tombstone for `id`, the replayed store has no such item and no edge mentioning it,
    whatever else the log holds and in whatever order. -/
theorem tombstone_gone {evs : List Event} {g : Graph} {id agent : Id} {ts : Option Time}
    (hmem : Event.tombstone id agent ts ∈ evs) (h : replay evs = .ok g) :
    g.has id = false ∧ (∀ e ∈ g.deps, e.1 ≠ id ∧ e.2 ≠ id) ∧ id ∈ g.tombs := by
  have hwf := replay_WF h
  obtain ⟨g0, h0, rfl⟩ := replay_ok _ h
  have hin : id ∈ (migrate g0).tombs := foldlM_tombstone_mem (g := g0) hmem h0
  refine ⟨?_, ?_, hin⟩
  · rw [Graph.has_false_iff]
    intro t ht heq
    exact hwf.live_not_tombed t ht (heq ▸ hin)
  · intro e he
    have hd := hwf.deps_not_tombed e he
    exact ⟨fun h1 => hd.1 (h1 ▸ hin), fun h2 => hd.2 (h2 ▸ hin)⟩

end Ergo
