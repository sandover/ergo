/-
  What the functions of the command layer return when they succeed, read off the model alone (no invariant), in the order of the model
  files (Command, Cli, Exec; the stages of `buildSetEvents` are in SetEvents.lean, `linkCheck`/`linkEvents` in StepGraphLinks.lean and
  `planValid`/`drawIds`/`planLinks` in StepGraphPlan.lean, with the graph facts they need).  Names: `f_ok` is the `OkAll` inversion of the
  model function `f`, used as `f_ok _ h` for `h : f … = .ok x` (`secCreate_epic`, `secPlan_shape` likewise: they say one thing about the
  result).
-/
import ErgoProofs.Lemmas.SetEvents
import ErgoProofs.Lemmas.JsonThm
namespace Ergo

theorem resultEvent_ok {t : Task} {s : String} {po : PathOutcome} {now : Time} :
    OkAll (fun e => t.isEpic = false ∧ resultSummaryOk s = true ∧
      ∃ c sh mt gi, po = .ok c sh mt gi ∧ e = Event.result t.id (Text.trimSpace s) c sh mt gi (some now))
      (resultEvent t s po now) := by
  unfold resultEvent
  simp only [pure, Except.pure, throw, throwThe, MonadExceptOf.throw, bind, Except.bind]
  refine .ite (fun _ => .error) fun hE => .ite (fun _ => .error) fun hs => ?_
  cases po with
  | rejected why => exact .error
  | ok c sh mt gi => exact .ok ⟨by simpa using hE, by simpa using hs, c, sh, mt, gi, rfl, rfl⟩

/-- The result event, if both result keys are there, then what `buildSetEvents` makes of the other keys, after the checks on an epic's
    keys and on the epic named (skipped when there are no other keys: `buildSetEvents` then gives `[]` and the clauses hold all the same). -/
theorem updateEvents_ok {g : Graph} {t : Task} {r : SetReq} {agent : String} {po : PathOutcome} {now : Time} :
    OkAll (fun evs => ∃ evRes,
      (match r.resultPath, r.resultSummary with
        | some _, some s => ∃ e, resultEvent t s po now = .ok e ∧ evRes = [e]
        | _, _ => evRes = []) ∧
      ∃ evSet, evs = evRes ++ evSet ∧ buildSetEvents t r.u agent now = .ok evSet ∧
        (t.isEpic = true → r.u.state = none ∧ r.u.claim = none) ∧
        ∀ e, r.u.epic = some e → t.isEpic = false →
          e = "" ∨ g.tombed e = false ∧ ∃ ep, g.find? e = some ep ∧ ep.isEpic = true)
      (updateEvents g t r agent po now) := by
  obtain ⟨u, rp, rs⟩ := r
  unfold updateEvents
  -- `rest`: everything after the result keys, as a function of the events they gave
  extract_lets rest
  have hrest : ∀ evRes, OkAll (fun evs => ∃ evSet, evs = evRes ++ evSet ∧ buildSetEvents t u agent now = .ok evSet ∧
      (t.isEpic = true → u.state = none ∧ u.claim = none) ∧
      ∀ e, u.epic = some e → t.isEpic = false → e = "" ∨ g.tombed e = false ∧ ∃ ep, g.find? e = some ep ∧ ep.isEpic = true)
      (rest evRes) := by
    intro evRes
    simp only [rest, pure, Except.pure, throw, throwThe, MonadExceptOf.throw]
    refine .ite (fun he => ?_) fun _ => .ite (fun _ => .error) fun hs => .ite (fun _ => .error) fun hc => ?_
    · cases Updates.eq_empty he
      exact .ok ⟨[], (List.append_nil _).symm, buildSetEvents_empty, fun _ => ⟨rfl, rfl⟩, fun _ h => nomatch h⟩
    have hep : t.isEpic = true → u.state = none ∧ u.claim = none := fun hE => by
      simpa [hE] using And.intro hs hc
    cases hn : u.epic with
    | none => exact .bind fun v hb => .ok ⟨v, rfl, hb, hep, fun _ h => nomatch h⟩
    | some e =>
      -- a task's non-empty epic: not pruned (`htomb`), then looked up; otherwise (`hcond`) unchecked
      refine .ite (fun _ => .ite (fun _ => .error) fun htomb => ?_) fun hcond => .bind fun v hb => .ok ⟨v, rfl, hb, hep, ?_⟩
      · cases hf : g.find? e with
        | none => exact .error
        | some ep =>
          refine .ite (fun _ => .error) fun hepic => .bind fun v hb => .ok ⟨v, rfl, hb, hep, ?_⟩
          rintro _ ⟨⟩ _
          exact .inr ⟨by simpa using htomb, ep, hf, by simpa using hepic⟩
      · rintro _ ⟨⟩ hE
        exact .inl (by simpa [hE] using hcond)
  rcases rp with _ | p <;> rcases rs with _ | s
  case some.some => exact .bind fun l hl evs h => let ⟨e, he, hl⟩ := map_ok hl; ⟨l, ⟨e, he, hl.symm⟩, hrest l evs h⟩
  all_goals exact fun evs h => ⟨[], rfl, hrest [] evs h⟩

theorem updateEvents_empty {g : Graph} {t : Task} {r : SetReq} {agent : String} {po : PathOutcome} {now : Time}
    (h : r.isEmpty = true) : updateEvents g t r agent po now = .ok [] := by
  obtain ⟨u, rp, rs⟩ := r
  simp only [SetReq.isEmpty, Bool.and_eq_true, Option.isNone_iff_eq_none] at h
  obtain ⟨⟨hu, rfl⟩, rfl⟩ := h
  unfold updateEvents
  simp only [hu]
  rfl

theorem updateEvents_mem {g : Graph} {t : Task} {r : SetReq} {agent : String} {po : PathOutcome} {now : Time} {evs : List Event}
    (h : updateEvents g t r agent po now = .ok evs) : ∀ e ∈ evs, SetEv t r.u now e := by
  obtain ⟨evRes, hres, evSet, rfl, hset, -⟩ := updateEvents_ok _ h
  refine List.forall_mem_append.2 ⟨?_, buildSetEvents_mem hset⟩
  split at hres
  · obtain ⟨e, he, rfl⟩ := hres
    obtain ⟨hE, hs, c, sh, mt, gi, -, rfl⟩ := resultEvent_ok _ he
    exact List.forall_mem_singleton.2 (.result c sh mt gi hE hs)
  · subst hres; exact fun _ h => nomatch h

theorem set_rejects_bad_epic (g : Graph) (t : Task) (e : Id) (r : SetReq) (agent : String) (po : PathOutcome) (now : Time)
    (ht : t.isEpic = false) (he : e ≠ "") (hr : r.u.epic = some e) (hres : r.resultPath = none)
    (hbad : g.tombed e = true ∨ g.find? e = none ∨ ∃ x, g.find? e = some x ∧ x.isEpic = false) :
    ∃ err, updateEvents g t r agent po now = .error err := by
  have _ := hres  -- not needed
  cases hx : updateEvents g t r agent po now with
  | error err => exact ⟨err, rfl⟩
  | ok evs =>
    obtain ⟨_, -, _, -, -, -, hR⟩ := updateEvents_ok _ hx
    obtain ⟨htomb, ep, hf, hE⟩ := (hR e hr ht).resolve_left he
    rcases hbad with h | h | ⟨x, h, hx'⟩
    · rw [htomb] at h; cases h
    · rw [h] at hf; cases hf
    · rw [h] at hf; cases hf; rw [hE] at hx'; cases hx'

theorem secUpdate_ok {g : Graph} {id : Id} {r : SetReq} {agent : String} {po : PathOutcome} {now : Time} :
    OkAll (fun w => g.tombed id = false ∧
      ∃ t evs, g.find? id = some t ∧ updateEvents g t r agent po now = .ok evs ∧ w = .append evs)
      (secUpdate g id r agent po now) := by
  unfold secUpdate
  simp only [throw, throwThe, MonadExceptOf.throw]
  refine .ite (fun _ => .error) fun ht => ?_
  cases hf : g.find? id with
  | none => exact .error
  | some t => exact .map fun evs hu => ⟨by simpa using ht, t, evs, rfl, hu, rfl⟩

theorem live_task_only (g : Graph) (id : Id) (r : SetReq) (agent : String) (po : PathOutcome) (now : Time) (w : Write)
    (s p : String) (hr : r.resultPath = some p ∧ r.resultSummary = some s)
    (h : secUpdate g id r agent po now = .ok w) :
    g.tombed id = false ∧ ∃ t, g.find? id = some t ∧ t.isEpic = false ∧ resultSummaryOk s = true ∧ ∃ c sha m gi, po = .ok c sha m gi := by
  obtain ⟨htomb, t, evs, hfind, hu, -⟩ := secUpdate_ok _ h
  obtain ⟨evRes, hres, -⟩ := updateEvents_ok _ hu
  simp only [hr.1, hr.2] at hres
  obtain ⟨e, he, -⟩ := hres
  obtain ⟨hE, hS, c, sha, m, gi, hpo, -⟩ := resultEvent_ok _ he
  exact ⟨htomb, t, hfind, hE, hS, c, sha, m, gi, hpo⟩

theorem pickId_go_spec {live : Id → Bool} {n : Nat} {ids : List Id} {i : Id} {rest : List Id}
    (h : pickId.go live n ids = some (i, rest)) : live i = false ∧ i ∈ ids ∧ ∀ x ∈ rest, x ∈ ids := by
  revert h
  fun_induction pickId.go live n ids with
  | case1 | case2 => exact nofun
  | case3 n j js hl ih =>
    intro h
    obtain ⟨h1, h2, h3⟩ := ih h
    exact ⟨h1, .tail _ h2, fun x hx => .tail _ (h3 x hx)⟩
  | case4 n j js hl =>
    rintro ⟨⟩
    exact ⟨by simpa using hl, .head _, fun x hx => .tail _ hx⟩

theorem secCreate_epic {g : Graph} {isEpic : Bool} {epicId title body : String} {follow : SetReq} {ids : List Id}
    {uuid agent : String} {po : PathOutcome} {now : Time} :
    OkAll (fun _ => isEpic = false → epicId ≠ "" → ∃ e, g.find? epicId = some e ∧ e.isEpic = true)
      (secCreate g isEpic epicId title body follow ids uuid agent po now) := by
  unfold secCreate
  simp only [throw, throwThe, MonadExceptOf.throw]
  refine .ite (fun _ => ?_) fun hc _ _ h1 h2 => absurd (by simp [h1, h2]) hc
  cases hf : g.find? epicId with
  | none => exact .error
  | some e => exact .ite (fun _ => .error) fun he _ _ _ _ => ⟨e, rfl, by simpa using he⟩

theorem create_rejects_bad_epic (g : Graph) (epicId title body : String) (follow : SetReq) (ids : List Id) (uuid agent : String)
    (po : PathOutcome) (now : Time) (he : epicId ≠ "")
    (hbad : g.find? epicId = none ∨ ∃ x, g.find? epicId = some x ∧ x.isEpic = false) :
    ∃ err, secCreate g false epicId title body follow ids uuid agent po now = .error err := by
  cases hx : secCreate g false epicId title body follow ids uuid agent po now with
  | error err => exact ⟨err, rfl⟩
  | ok p =>
    obtain ⟨e, hf, hE⟩ := secCreate_epic _ hx rfl he
    rcases hbad with h | ⟨x, h, hx'⟩
    · rw [h] at hf; cases hf
    · rw [h] at hf; cases hf; rw [hE] at hx'; cases hx'

theorem secCreate_ok {g : Graph} {isEpic : Bool} {epicId title body : String} {follow : SetReq} {ids : List Id}
    {uuid agent : String} {po : PathOutcome} {now : Time} :
    OkAll (fun (w, id) => id ∈ ids ∧ (g.tombed id = false ∧ g.has id = false) ∧
      ∃ more, w = .append (Event.newItem isEpic id uuid (if isEpic then "" else epicId) .todo title body (some now) :: more) ∧
        updateEvents g (freshTask isEpic id uuid (if isEpic then "" else epicId) title body now) follow agent po now = .ok more)
      (secCreate g isEpic epicId title body follow ids uuid agent po now) := by
  unfold secCreate
  simp only [pure, Except.pure, throw, throwThe, MonadExceptOf.throw]
  -- both ways past the epic check end in the same id draw
  refine .ite (fun _ => ?_) fun _ => ?_
  rcases g.find? epicId with _ | e
  · exact .error
  refine .ite (fun _ => .error) fun _ => ?_
  all_goals
    cases hp : pickId g.taken ids with
    | none => exact .error
    | some p =>
      obtain ⟨id, rest⟩ := p
      obtain ⟨h1, h2, -⟩ := pickId_go_spec hp
      rw [Graph.taken, Bool.or_eq_false_iff] at h1
      exact .ite (fun he => .ok ⟨h2, h1, [], rfl, updateEvents_empty he⟩) fun _ => .bind fun more hu => .ok ⟨h2, h1, more, rfl, hu⟩

theorem secClaimOldest_ok {g : Graph} {epic agent : String} {now : Time} :
    OkAll (fun (w, t) => ∃ rest, readyTasks g epic = t :: rest ∧
      w = .append [Event.claim t.id agent (some now), Event.state t.id .doing (some now)])
      (secClaimOldest g epic agent now) := by
  fun_cases secClaimOldest g epic agent now with
  | case1 => exact .error
  | case2 t rest h => exact .ok ⟨rest, h, rfl⟩

theorem valid_titled (t : TaskInput) (b : Bool) (h : t.valid true b = true) : Text.isBlank (t.title.getD "") = false := by
  unfold TaskInput.valid at h
  cases ht : t.title with
  | none => simp [ht] at h
  | some s => simp [ht] at h; simpa using h.1.1.1.1.1  -- the first of `valid`'s six conjuncts, the title test

/-- a create section as `new task` / `new epic` build it: non-blank title, and follow-up updates without title, body or epic -/
def IsNewSec (isEpic : Bool) (s : Sec) : Prop :=
  ∃ epicId title body follow, s = .create isEpic epicId title body follow ∧ Text.isBlank title = false ∧
    follow.u.title = none ∧ follow.u.body = none ∧ follow.u.epic = none

/-- The cases are the branches of `sectionOf` in source order (4–18 `new`: a title flag, or a JSON document in 11 and 18; 23–46 the
    other commands); those not named refuse. -/
theorem sectionOf_ok {agent : String} {req : Request} :
    OkAll (fun s => match req with
      | .newTask _ => IsNewSec false s
      | .newEpic _ => IsNewSec true s
      | .set id _ => ∃ r, s = .update id r
      | .claim id => agent ≠ "" ∧ s = .update id { u := { claim := some agent, state := some "doing" } }
      | .claimOldest epic => agent ≠ "" ∧ s = .claimOldest epic
      | .sequence _ => ∃ un edges, s = .links un edges
      | .plan p => ∃ q, p = some q ∧ planValid q = true ∧ s = .plan q
      | .prune y => s = .prune y
      | .compact => s = .compact) (sectionOf agent req) := by
  fun_cases sectionOf agent req with
  -- the trimmed title is a let-variable here; `Text.trimSpace_not_blank _` would meet it by unfolding `Text.trimSpace` (slow to
  -- check), so the argument is written out
  | case4 i _ _ _ ht | case7 i _ _ _ ht | case14 i _ _ _ ht =>
    exact .ok ⟨_, _, _, _, rfl, Text.trimSpace_not_blank i.flags.title (by simpa using ht), rfl, rfl, rfl⟩
  | case15 i _ hc =>
    simp only [Bool.and_eq_true, bne_iff_ne, ne_eq] at hc
    exact .ok ⟨_, _, _, _, rfl, Text.trimSpace_not_blank _ hc.2, rfl, rfl, rfl⟩
  | case11 i _ _ t _ hv _ _ r =>
    refine .ok ⟨_, _, _, _, rfl, valid_titled t false (by simpa using hv), ?_⟩
    unfold r
    split <;> exact ⟨rfl, rfl, rfl⟩
  | case18 i _ _ t _ hv => exact .ok ⟨_, _, _, _, rfl, valid_titled t true (by simpa using hv), rfl, rfl, rfl⟩
  | case23 | case26 | case31 => exact .ok ⟨_, rfl⟩
  | case34 id _ ha => exact .ok ⟨by simpa using ha, rfl⟩
  | case36 epic ha => exact .ok ⟨by simpa using ha, rfl⟩
  | case39 | case41 => exact .ok ⟨_, _, rfl⟩
  | case43 p hv => exact .ok ⟨p, rfl, hv, rfl⟩
  | case45 | case46 => exact .ok rfl
  | _ => exact .error

theorem now_mem_times {env : Env} (h : env.times ≠ []) : env.now ∈ env.times := by
  unfold Env.now
  cases ht : env.times with
  | nil => exact absurd ht h
  | cons x xs => simp

theorem getD_mem_times {env : Env} (h : env.times ≠ []) (k : Nat) : env.times.getD k env.now ∈ env.times := by
  rw [List.getD_eq_getElem?_getD]
  cases hk : env.times[k]? with
  | none => exact now_mem_times h
  | some a => exact List.mem_of_getElem? hk

theorem secPlan_shape {log : List Event} {g : Graph} {p : PlanInput} {env : Env} :
    OkAll (fun (w, _) => ∃ new, w = .replace (log ++ new)) (secPlan log g p env) := by
  fun_cases secPlan log g p env with
  | case4 => exact .ok ⟨_, by rw [List.append_assoc, List.append_assoc]⟩
  | _ => exact .error

theorem runSec_ok {log : List Event} {env : Env} {s : Sec} :
    OkAll (fun (w, o) => ∃ g, replay log = .ok g ∧
      match s with
      | .create isEpic epicId title body follow =>
        ∃ id, secCreate g isEpic epicId title body follow env.ids (env.uuids.headD "") env.agent env.po env.now = .ok (w, id) ∧
          o.created = some id
      | .update id r => secUpdate g id r env.agent env.po env.now = .ok w
      | .links un edges => secLinks g un edges = .ok w
      | .claimOldest epic => ∃ t, secClaimOldest g epic env.agent env.now = .ok (w, t) ∧ o.claimed = some t ∧ o.now = env.now
      | .prune apply => w = (secPrune g apply env.agent env.now).1 ∧ o.pruned = (secPrune g apply env.agent env.now).2
      | .compact => w = secCompact g
      | .plan p => ∃ po, secPlan log g p env = .ok (w, po) ∧ o.plan = some po) (runSec log env s) := by
  fun_cases runSec log env s with
  | case1 => exact .error
  | case2 g hg => exact .map fun (w, id) h1 => ⟨g, hg, id, h1, rfl⟩
  | case3 g hg | case4 g hg => exact .map fun w h1 => ⟨g, hg, h1⟩
  | case5 g hg => exact .map fun (w, t) h1 => ⟨g, hg, t, h1, rfl, rfl⟩
  | case6 g hg _ w ids hp => exact .ok ⟨g, hg, by rw [hp], by rw [hp]⟩
  | case7 g hg => exact .ok ⟨g, hg, rfl⟩
  | case8 g hg => exact .map fun (w, po) h1 => ⟨g, hg, po, h1, rfl⟩

theorem runSec_extends {log : List Event} {env : Env} {sec : Sec} {w : Write} {o : SecOut}
    (hsec : sec ≠ .compact) (h : runSec log env sec = .ok (w, o)) : ∃ more, applyWrite log w = log ++ more := by
  obtain ⟨g, -, hk⟩ := runSec_ok _ h
  cases sec with
  | create isEpic epicId title body follow =>
    obtain ⟨id, hs, -⟩ := hk
    obtain ⟨-, -, more, rfl, -⟩ := secCreate_ok _ hs
    exact ⟨_, rfl⟩
  | update id r => obtain ⟨-, t, evs, -, -, rfl⟩ := secUpdate_ok _ hk; exact ⟨_, rfl⟩
  | links un edges => obtain ⟨evs, -, rfl⟩ := map_ok hk; exact ⟨_, rfl⟩
  | claimOldest epic =>
    obtain ⟨t, hs, -⟩ := hk
    obtain ⟨-, -, rfl⟩ := secClaimOldest_ok _ hs
    exact ⟨_, rfl⟩
  | prune a => obtain ⟨rfl, -⟩ := hk; exact ⟨_, rfl⟩
  | compact => exact absurd rfl hsec
  | plan p =>
    obtain ⟨po, hs, -⟩ := hk
    obtain ⟨new, rfl⟩ := secPlan_shape _ hs
    exact ⟨new, rfl⟩

/-- a command writes nothing (and then exits 0 only as `claim` finding nothing ready), or the write of its one lock section -/
theorem runCmd_cases (log : List Event) (env : Env) (req : Request) :
    ((runCmd log env req).log = log ∧ (runCmd log env req).write = none ∧
      ((runCmd log env req).err = none → ∃ e, req = .claimOldest e)) ∨
    ∃ sec w out, sectionOf env.agent req = .ok sec ∧ runSec log env sec = .ok (w, out) ∧
      runCmd log env req = { err := none, log := applyWrite log w, write := some w, out } := by
  unfold runCmd
  cases hs : sectionOf env.agent req with
  | error e => exact .inl ⟨rfl, rfl, nofun⟩
  | ok sec =>
    dsimp only
    cases hr : runSec log env sec with
    | error e =>
      refine .inl ⟨rfl, rfl, fun h => ?_⟩
      dsimp only at h
      split at h
      · exact ⟨_, rfl⟩
      · cases h
    | ok p => obtain ⟨w, out⟩ := p; exact .inr ⟨sec, w, out, rfl, hr, rfl⟩

theorem runCmd_write {log : List Event} {env : Env} {req : Request} {w : Write} (h : (runCmd log env req).write = some w) :
    ∃ sec out, sectionOf env.agent req = .ok sec ∧ runSec log env sec = .ok (w, out) ∧ (runCmd log env req).log = applyWrite log w := by
  rcases runCmd_cases log env req with h' | ⟨sec, w', o, hs, hr, hres⟩
  · rw [h'.2.1] at h; cases h
  · rw [hres] at h ⊢
    cases h
    exact ⟨sec, o, hs, hr, rfl⟩

theorem runCmd_err_unchanged (log : List Event) (env : Env) (req : Request) (e : CmdErr)
    (h : (runCmd log env req).err = some e) : (runCmd log env req).log = log ∧ (runCmd log env req).write = none := by
  rcases runCmd_cases log env req with h' | ⟨_, _, _, -, -, hres⟩
  · exact ⟨h'.1, h'.2.1⟩
  · rw [hres] at h; cases h

end Ergo
