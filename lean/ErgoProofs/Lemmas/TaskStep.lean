/-
  Single steps of replay as equations: what an update event does to the item it names (`stepTask`, and the fields it never touches),
  hence to the graph (`applyEvent_update`, `foldlM_updates`); what a `newItem` event adds (`newTask`, `applyEvent_newItem`); what a
  `link` or `unlink` event between unpruned ids does to the edge list (`applyEvent_link_ok`, `applyEvent_unlink`).
-/
import ErgoProofs.Lemmas.Basics
namespace Ergo

def stepTask (k : Task) : Event → Task
  | .state _ st (some t) =>
      { k with st := st, updatedAt := maxTime k.updatedAt t,
               claimedBy := if st.clearsClaim then "" else k.claimedBy, lastState := t }
  | .claim _ agent (some t) => { k with claimedBy := agent, lastClaim := t }
  | .unclaim _ => { k with claimedBy := "" }
  | .title _ s (some t) => { k with title := s, updatedAt := maxTime k.updatedAt t, lastTitle := t }
  | .body _ s (some t) => { k with body := s, updatedAt := maxTime k.updatedAt t, lastBody := t }
  | .epic _ e (some t) => { k with epicId := e, updatedAt := maxTime k.updatedAt t, lastEpic := t }
  | .result _ summary path sha mtime git (some t) =>
      { k with results := { summary, path, sha, mtime, git, time := t } :: k.results, updatedAt := maxTime k.updatedAt t }
  | _ => k

theorem stepTask_keeps (k : Task) (e : Event) : (stepTask k e).id = k.id ∧ (stepTask k e).isEpic = k.isEpic ∧
    (stepTask k e).uuid = k.uuid ∧ (stepTask k e).createdAt = k.createdAt := by
  unfold stepTask; split <;> exact ⟨rfl, rfl, rfl, rfl⟩

theorem stepTask_id (k : Task) (e : Event) : (stepTask k e).id = k.id := (stepTask_keeps k e).1
theorem stepTask_isEpic (k : Task) (e : Event) : (stepTask k e).isEpic = k.isEpic := (stepTask_keeps k e).2.1
theorem stepTask_uuid (k : Task) (e : Event) : (stepTask k e).uuid = k.uuid := (stepTask_keeps k e).2.2.1
theorem stepTask_createdAt (k : Task) (e : Event) : (stepTask k e).createdAt = k.createdAt := (stepTask_keeps k e).2.2.2

theorem foldl_stepTask_inv {α : Type} (F : Task → α) (hF : ∀ k e, F (stepTask k e) = F k) (evs : List Event) (k : Task) :
    F (evs.foldl stepTask k) = F k :=
  List.foldlRecOn (motive := fun k' => F k' = F k) evs stepTask rfl fun k' h e _ => (hF k' e).trans h

theorem foldl_stepTask_id (evs : List Event) (k : Task) : (evs.foldl stepTask k).id = k.id :=
  foldl_stepTask_inv (·.id) stepTask_id evs k
theorem foldl_stepTask_isEpic (evs : List Event) (k : Task) : (evs.foldl stepTask k).isEpic = k.isEpic :=
  foldl_stepTask_inv (·.isEpic) stepTask_isEpic evs k
theorem foldl_stepTask_uuid (evs : List Event) (k : Task) : (evs.foldl stepTask k).uuid = k.uuid :=
  foldl_stepTask_inv (·.uuid) stepTask_uuid evs k
theorem foldl_stepTask_createdAt (evs : List Event) (k : Task) : (evs.foldl stepTask k).createdAt = k.createdAt :=
  foldl_stepTask_inv (·.createdAt) stepTask_createdAt evs k

theorem stepTask_results (k : Task) (e : Event) : ∃ new, (stepTask k e).results = new ++ k.results ∧ new.length ≤ 1 := by
  fun_cases stepTask k e
  case case7 => exact ⟨[_], rfl, Nat.le_refl 1⟩  -- the `result` event, seventh equation of `stepTask`
  all_goals exact ⟨[], rfl, Nat.zero_le 1⟩

def IsUpdateFor (id : Id) : Event → Prop
  | .state i _ (some _) | .claim i _ (some _) | .unclaim i | .title i _ (some _) | .body i _ (some _)
  | .epic i _ (some _) | .result i _ _ _ _ _ (some _) => i = id
  | _ => False

/-- covers the id that is not live too: `g.update` is then the identity -/
theorem withLive_some (g : Graph) (id : Id) (t : Time) (f : Task → Time → Task) (ht : g.tombed id = false) :
    withLive g id (some t) f = .ok (g.update id (f · t)) := by
  refine (if_neg (by simp [ht])).trans ?_
  split
  · next h => exact congrArg Except.ok (Graph.update_absent g id _ (by simpa using h)).symm
  · rfl

theorem applyEvent_update (g : Graph) (id : Id) (e : Event) (ht : g.tombed id = false) (he : IsUpdateFor id e) :
    applyEvent g e = .ok (g.update id fun k => stepTask k e) := by
  cases e with
  | state i _ ts | claim i _ ts | title i _ ts | body i _ ts | epic i _ ts | result i _ _ _ _ _ ts =>
    cases ts with
    | none => cases he
    | some t => cases he; rw [applyEvent, withLive_some g id t _ ht]; rfl
  | unclaim i => cases he; exact if_neg (by simp [ht])
  | _ => cases he

theorem foldlM_updates (g : Graph) (id : Id) (evs : List Event) (ht : g.tombed id = false) (he : ∀ e ∈ evs, IsUpdateFor id e) :
    evs.foldlM applyEvent g = .ok (g.update id fun k => evs.foldl stepTask k) := by
  induction evs generalizing g with
  | nil => exact congrArg Except.ok (by simp [Graph.update])
  | cons e es ih =>
    rw [foldlM_cons_ok _ (applyEvent_update g id e ht (he e List.mem_cons_self)),
      ih (g.update id _) ht fun e' he' => he e' (List.mem_cons_of_mem _ he'), Graph.update_update fun k => stepTask_id k e]
    rfl

def newTask (isEpic : Bool) (id uuid epicId : Id) (st : St) (title body : String) (c : Time) : Task :=
  { id, uuid, epicId, isEpic, st, title, body, claimedBy := "", createdAt := c, updatedAt := c,
    results := [], cTitle := title, cBody := body, cSt := st, cEpic := epicId,
    lastState := 0, lastClaim := 0, lastTitle := 0, lastBody := 0, lastEpic := 0 }

theorem applyEvent_newItem (g : Graph) (isEpic : Bool) (id uuid epicId : Id) (st : St) (title body : String) (c : Time)
    (ht : g.tombed id = false) (hh : g.has id = false) :
    applyEvent g (.newItem isEpic id uuid epicId st title body (some c)) =
      .ok { g with tasks := g.tasks ++ [newTask isEpic id uuid epicId st title body c] } := by
  simp [applyEvent, ht, hh, newTask]

theorem applyEvent_link_ok (g : Graph) (f t : Id) (hf : g.tombed f = false) (ht : g.tombed t = false) :
    applyEvent g (.link f t true) = .ok (if g.deps.contains (f, t) then g else { g with deps := g.deps ++ [(f, t)] }) := by
  simp only [applyEvent, hf, ht, Bool.or_self, Bool.not_true, Bool.false_eq_true, if_false]
  exact (apply_ite _ _ _ _).symm

theorem applyEvent_unlink (g : Graph) (f t : Id) (hf : g.tombed f = false) (ht : g.tombed t = false) :
    applyEvent g (.unlink f t true) = .ok { g with deps := g.deps.filter (· != (f, t)) } := by
  simp only [applyEvent, hf, ht, Bool.or_self, Bool.not_true, Bool.false_eq_true, if_false]

end Ergo
