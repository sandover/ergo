/-
  Whatever the interleaving, the log of the process model is that of a serial run of the committed lock sections (`SecReach`),
  so every invariant of serial runs holds of it.
-/
import ErgoProofs.Lemmas.ReachInv
import ErgoProofs.Lemmas.ProcThm
namespace Ergo

/-- what a writer process decides from the log it reads under the lock -/
def secDecide (env : Env) (sec : Sec) : List Event → Except CmdErr Write := fun log => (runSec log env sec).map (·.1)

open Proc in
/-- each commit was decided on the log its predecessors left (`Proc.StoreInv.com`), so every prefix of the commit list replays as a serial
    run (a prefix of the commits, not of the log: a `.replace` commit rewrites it) -/
theorem conc_secReach_prefix (log0 : List Event) (envs : List (Env × Sec)) (nr : Nat) (s : Sys)
    (h : Reachable (Sys.init log0 (envs.map fun (es : Env × Sec) => secDecide es.1 es.2) nr) s)
    (h0 : SecReach log0)
    (hok : ∀ es ∈ envs, SecOK es.1 es.2)
    (hclock : ∀ (i p : Nat) (snap : List Event) (w : Write) (g : Graph), s.commits[i]? = some (p, snap, w) → replayRaw snap = .ok g →
               ∀ es : Env × Sec, envs[p]? = some es → EnvOK g es.1) :
    ∀ k, k ≤ s.commits.length → SecReach (logAfter log0 s.commits k) := by
  intro k
  induction k with
  | zero => exact fun _ => (logAfter_zero log0 s.commits).symm ▸ h0
  | succ k ih =>
    intro hk
    have ihk := ih (Nat.le_of_lt hk)
    obtain ⟨⟨p, snap, w⟩, hget⟩ : ∃ c, s.commits[k]? = some c := ⟨_, List.getElem?_eq_getElem hk⟩
    obtain ⟨hsnap, d, hd, hdw⟩ := (inv_reachable h).com k p snap w hget
    rw [List.getElem?_map] at hd
    obtain ⟨es, hes, rfl⟩ := Option.map_eq_some_iff.1 hd
    obtain ⟨⟨w', out⟩, hrun, rfl⟩ := map_ok hdw
    obtain ⟨g, hg, _⟩ := secReach_allInv _ ihk
    rw [← hsnap] at ihk hg
    rw [logAfter_succ hget, ← hsnap]
    exact .step es.1 es.2 w' out ihk hg (hclock k p snap w' g hget hg es hes) (hok es (List.mem_of_getElem? hes)) hrun

open Proc in
/-- C02/C06/C07/C14 under concurrency; with `secReach_allInv` every invariant of serial runs holds of `s.log` -/
theorem conc_secReach (log0 : List Event) (envs : List (Env × Sec)) (nr : Nat) (s : Sys)
    (h : Reachable (Sys.init log0 (envs.map fun (es : Env × Sec) => secDecide es.1 es.2) nr) s)
    (h0 : SecReach log0)
    (hok : ∀ es ∈ envs, SecOK es.1 es.2)
    (hclock : ∀ (i p : Nat) (snap : List Event) (w : Write) (g : Graph), s.commits[i]? = some (p, snap, w) → replayRaw snap = .ok g →
               ∀ es : Env × Sec, envs[p]? = some es → EnvOK g es.1) :
    SecReach s.log :=
  (inv_reachable h).log ▸ conc_secReach_prefix log0 envs nr s h h0 hok hclock _ (Nat.le_refl _)

end Ergo
