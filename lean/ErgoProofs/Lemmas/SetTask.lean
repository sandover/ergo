/-
  C06 for one `set`: whatever keys the request carries, an accepted `buildSetEvents` leaves the item obeying the claim rule, in
  its old state or one the documented table allows (`set_task_inv`).
-/
import ErgoProofs.Lemmas.TaskStep
import ErgoProofs.Lemmas.SetEvents
namespace Ergo

/-- `k'` has the state, claimant and kind of `k`: all `TaskInv` reads (`updateEvents_task` has `t` after a result event for `k'`) -/
def SameSC (k k' : Task) : Prop := k'.st = k.st ∧ k'.claimedBy = k.claimedBy ∧ k'.isEpic = k.isEpic

theorem TaskInv_congr {k k' : Task} (h : SameSC k k') (hk : TaskInv k) : TaskInv k' := by
  unfold SameSC at h
  obtain ⟨h1, h2, h3⟩ := h
  unfold TaskInv at *
  rw [h1, h2, h3]; exact hk

theorem TaskInv_task {k : Task} (hE : k.isEpic = false) (hv : k.st.valid = true)
    (hc : docClaimOk k.st k.claimedBy = true) : TaskInv k :=
  ⟨fun h => (by rw [hE] at h; cases h), fun _ => ⟨hv, hc⟩⟩

theorem set_task_inv {t k : Task} {u : Updates} {agent : String} {now : Time} {evs : List Event} (hk : SameSC t k)
    (ht : TaskInv t) (hep : t.isEpic = true → u.state = none ∧ u.claim = none)
    (h : buildSetEvents t u agent now = .ok evs) :
    TaskInv (evs.foldl stepTask k) ∧ ((evs.foldl stepTask k).st = t.st ∨ docTransition t.st (evs.foldl stepTask k).st = true) := by
  obtain ⟨claim, e1, e3, e4, e5, e6, h0, h1, h3, h4, h5, h6, rfl⟩ := buildSetEvents_ok _ h
  obtain ⟨rfl, -⟩ := evTitle_ok _ h1
  obtain ⟨rfl, -⟩ := evEpic_ok _ h3
  obtain ⟨rfl, hcu⟩ := evClaim_ok _ h4
  obtain ⟨rfl, hst⟩ := evState_ok _ h5
  obtain ⟨rfl, htr⟩ := evTrail_ok _ h6
  rw [evBody_eq]
  simp only [List.foldl_append]
  -- the title/body/epic prefix does not touch state, claimant or kind
  generalize hA : List.foldl stepTask (List.foldl stepTask (List.foldl stepTask k _) _) (Option.map _ u.epic).toList = tA
  have hA : SameSC t tA := by
    subst hA
    cases u.title <;> cases u.body <;> cases u.epic <;> simpa [SameSC, stepTask] using hk
  obtain ⟨hAst, hAcl, hAep⟩ := hA
  have keep : TaskInv tA ∧ (tA.st = t.st ∨ docTransition t.st tA.st = true) :=
    ⟨TaskInv_congr ⟨hAst, hAcl, hAep⟩ ht, .inl hAst⟩
  cases hE : t.isEpic
  · -- a task: by the claim key (none, "", an agent) and the state key
    obtain ⟨hv, hc⟩ := ht.2 hE
    have hEA : tA.isEpic = false := hAep.trans hE
    -- a named state `s` becomes the state, and `evState` has checked it against the claimant that results
    have state : ∀ {s} {k' : Task}, u.state = some s → k'.isEpic = false →
        k'.claimedBy = (if claim.isSome && !t.isEpic then claim.getD "" else t.claimedBy) →
        TaskInv (stepTask k' (.state t.id (St.ofString s) (some now))) ∧
          ((stepTask k' (.state t.id (St.ofString s) (some now))).st = t.st ∨
            docTransition t.st (stepTask k' (.state t.id (St.ofString s) (some now))).st = true) := fun hs hE hc =>
      let ⟨hsv, hstr, hsc⟩ := hst _ hs
      ⟨TaskInv_task hE hsv (by rw [← hc] at hsc; exact hsc), hstr.imp_left Eq.symm⟩
    cases claim with
    | none =>
      cases hs : u.state with
      | none => simpa using keep
      | some s => simpa using state hs hEA hAcl
    | some cv =>
      by_cases hcv : cv = ""
      · subst hcv
        cases hs : u.state with
        | none =>
          have hcu := (hcu rfl hE).resolve_left (by simp [hs])
          -- the events evaluate to `unclaim`
          exact ⟨TaskInv_task hEA (hAst ▸ hv) (hAst ▸ hcu), .inl hAst⟩
        | some s =>
          -- `unclaim`, `state s`
          exact state hs hEA (by simp [hE, stepTask])
      · have hb : (cv == "") = false := beq_eq_false_iff_ne.2 hcv
        cases hs : u.state with
        | none =>
          have htr := htr (by simp [hE, hs, hcv])
          simp only [hb, bne, Option.getD_some]  -- `claim cv`, `state doing`
          exact ⟨TaskInv_task hEA rfl (by simpa [docClaimOk, stepTask, St.clearsClaim] using hcv), htr.imp_left Eq.symm⟩
        | some s =>
          simp only [hb, Option.isSome_some, Bool.not_true, Bool.and_false]  -- `claim cv`, `state s`
          exact state hs hEA (by simp [hE, stepTask])
  · -- an epic: the caller has already refused state and claim keys
    obtain ⟨hs, hc⟩ := hep hE
    obtain rfl : claim = none := by
      rcases implicitClaim_ok _ h0 with hx | ⟨-, hx, -⟩
      · rw [hx, hc]
      · rw [hE] at hx; cases hx
    simpa [hs] using keep

end Ergo
