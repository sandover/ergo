/-
  The `file://` URL of a result (ErgoModel.Url): the escaped path is printable ASCII and unescapes to the bytes that went in; the
  path that is escaped is absolute when the project directory is, and is the cleaned join when it has no backslash.
-/
import ErgoModel.Url
import ErgoProofs.Lemmas.PathThm
namespace Ergo.Url
open Ergo.Path

/-- the bytes `escapePath` can produce: those it leaves alone (hex digits among them) and '%' -/
def urlByte (b : UInt8) : Bool := safeByte b || b == 37

/-- printable ASCII without quote, angle brackets and backslash (34, 60, 62, 92): one token wherever a URL is printed (C20) -/
theorem urlByte_printable :
    ∀ b : UInt8, urlByte b = true → 33 ≤ b ∧ b ≤ 126 ∧ b ≠ 34 ∧ b ≠ 60 ∧ b ≠ 62 ∧ b ≠ 92 := by
  intro b
  simp only [urlByte, safeByte, isAlnum, Bool.or_eq_true, Bool.and_eq_true, decide_eq_true_eq, beq_iff_eq,
    UInt8.le_iff_toNat_le, ← UInt8.toNat_inj, ne_eq, UInt8.toNat_ofNat]
  omega

/-- all bytes from the 256 instances, which the kernel evaluates -/
theorem forall_byte (Q : UInt8 → Prop) (h : ∀ n : Fin 256, Q (UInt8.ofNat n.val)) : ∀ b, Q b := by
  intro b
  have := h ⟨b.toNat, b.toNat_lt⟩
  simpa using this

theorem nibbles : ∀ b : UInt8, b >>> 4 < 16 ∧ b &&& 15 < 16 ∧ (b >>> 4) <<< 4 ||| (b &&& 15) = b := by
  apply forall_byte; decide +kernel

-- `Url.hexDigit : UInt8 → UInt8`, upper case; `Json.hexDigit : Nat → Char` (lower case, JsonThm) is another function
theorem hexDigit_spec : ∀ n : UInt8, n < 16 → urlByte (hexDigit n) = true ∧ unhex (hexDigit n) = some n := by
  apply forall_byte; decide +kernel

theorem safeByte_ne_pct (b : UInt8) (h : safeByte b = true) : b ≠ 37 := by
  rintro rfl; cases h

theorem escapePath_cons (b : UInt8) (bs : Bytes) : escapePath (b :: bs) = escByte b ++ escapePath bs := by
  simp [escapePath]

theorem escapePath_bytes (bs : Bytes) : ∀ b ∈ escapePath bs, urlByte b = true := by
  refine List.forall_mem_flatMap.2 fun a _ => ?_
  fun_cases escByte a with
  | case1 hs => simp only [List.forall_mem_singleton, urlByte, hs, Bool.true_or]
  | case2 =>
    simp only [List.forall_mem_cons]
    exact ⟨by decide, (hexDigit_spec _ (nibbles a).1).1, (hexDigit_spec _ (nibbles a).2.1).1, nofun⟩

theorem unescape_cons_safe (b : UInt8) (rest : Bytes) (h : b ≠ 37) :
    unescape (b :: rest) = (unescape rest).map (b :: ·) := by
  rw [unescape]
  · simp [h]
  · intro h' l' rest' heq
    exact absurd heq h

theorem unescape_pct (h l : UInt8) (rest : Bytes) : unescape (37 :: h :: l :: rest) =
    match unhex h, unhex l, unescape rest with
    | some a, some b, some r => some ((a <<< 4 ||| b) :: r)
    | _, _, _ => none := by
  rw [unescape]
  rfl

theorem unescape_escapePath (bs : Bytes) : unescape (escapePath bs) = some bs := by
  induction bs with
  | nil => rfl
  | cons b bs ih =>
    rw [escapePath_cons]
    fun_cases escByte b with
    | case1 hs => simp [unescape_cons_safe _ _ (safeByte_ne_pct b hs), ih]
    | case2 =>
      obtain ⟨h1, h2, h3⟩ := nibbles b
      simp [unescape_pct, hexDigit_spec _ h1, hexDigit_spec _ h2, h3, ih]

/-- two byte strings are escaped alike only if they are equal.  Bytes, not paths: that two paths with one URL are one text needs `utf8` injective
    as well (`Codec.utf8DecLossy_encoded`, see `utf8_eq`) -/
theorem escapePath_injective (a b : Bytes) (h : escapePath a = escapePath b) : a = b := by
  have := congrArg unescape h
  rw [unescape_escapePath, unescape_escapePath] at this
  exact Option.some.inj this

/-- core has no lemma about `ByteArray.toList` -/
theorem byteArray_toList_loop (bs : ByteArray) (i : Nat) (r : List UInt8) :
    ByteArray.toList.loop bs i r = r.reverse ++ bs.data.toList.drop i := by
  fun_induction ByteArray.toList.loop bs i r with
  | case1 i r h ih =>
    rw [← ByteArray.size_data] at h
    rw [List.drop_eq_getElem_cons (by simpa using h), ih]
    simp [ByteArray.get!, getElem!_pos bs.data i h]
  | case2 i r h =>
    rw [List.drop_eq_nil_of_le (by simpa using h), List.append_nil]

theorem byteArray_toList (bs : ByteArray) : bs.toList = bs.data.toList := by
  simp [ByteArray.toList, byteArray_toList_loop]

/-- `Url.utf8` is `Codec.utf8Enc` (ErgoModel.Codec, not imported here; the right side is its body).  Where both are in sight,
    `have : utf8 p = Codec.utf8Enc p := utf8_eq p` opens `utf8Enc_cons`, `utf8Enc_append`, `utf8DecLossy_encoded` (Lemmas/CodecStr);
    `rw` with them does not match the unfolded form -/
theorem utf8_eq (p : P) : utf8 p = p.flatMap String.utf8EncodeChar := by
  unfold utf8
  rw [byteArray_toList, String.toUTF8, String.toByteArray_ofList, List.utf8Encode, List.toList_data_toByteArray]

theorem utf8_slash (cs : P) : utf8 ('/' :: cs) = 47 :: utf8 cs := by
  rw [utf8_eq, utf8_eq, List.flatMap_cons]
  rfl

theorem urlPath_absolute (repo rel : P) (habs : isAbs repo = true) :
    ∃ cs, urlPath repo rel = '/' :: cs := by
  obtain ⟨cs, h⟩ := join_abs repo rel habs
  unfold urlPath
  simp [h]

theorem map_backslash_id (p : P) (h : ∀ c ∈ p, c ≠ '\\') :
    p.map (fun c => if c == '\\' then '/' else c) = p := by
  rw [List.map_congr_left fun c hc => if_neg (by simpa using h c hc), List.map_id']

theorem urlPath_eq_join (repo rel : P) (habs : isAbs repo = true) (hb : ∀ c ∈ join [repo, rel], c ≠ '\\') :
    urlPath repo rel = join [repo, rel] := by
  obtain ⟨cs, h⟩ := join_abs repo rel habs
  unfold urlPath
  simp only [map_backslash_id _ hb]
  simp [h]

end Ergo.Url
