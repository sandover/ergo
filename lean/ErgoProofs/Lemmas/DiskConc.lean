/-
  The invariants of what is on disk under concurrency: `ProcB.reach_abs`, `conc_secReach` and `secReach_allInv` joined.
-/
import ErgoProofs.Lemmas.ProcBytesThm
import ErgoProofs.Lemmas.ConcReach
open Ergo Ergo.Storage Ergo.Codec Ergo.Proc
namespace Ergo.ProcB

theorem cmdWriter_eq_secDecide : cmdWriter = secDecide := rfl

/-- what `ProcB.inv_init` asks of the writers -/
theorem secDecide_wf {envs : List (Env × Sec)} (hT : ∀ es ∈ envs, EnvT es.1) :
    ∀ d ∈ envs.map (fun (es : Env × Sec) => secDecide es.1 es.2), ∀ snap wr, AllWf snap → d snap = .ok wr → AllWf wr.events := by
  intro d hd snap wr hs hdw
  obtain ⟨es, hes, rfl⟩ := List.mem_map.1 hd
  exact cmdWriter_wf es.1 (hT es hes) es.2 snap wr hs (cmdWriter_eq_secDecide ▸ hdw)

/-- any interleaving of ergo's commands on the bytes, with deaths between calls (runs of `BReachableNT`: see there) -/
theorem conc_disk_allInv (f : Bytes) (log0 : List Event) (envs : List (Env × Sec)) (nr limit : Nat) (ets : Event → String)
    (hf : readEvents classifyLine limit f = .ok log0) (hfw : AllWf log0) (h0 : SecReach log0)
    (hok : ∀ es ∈ envs, SecOK es.1 es.2) (hT : ∀ es ∈ envs, EnvT es.1)
    (s : BSys) (h : BReachableNT (BSys.init f (envs.map fun (es : Env × Sec) => secDecide es.1 es.2) nr limit ets) s)
    (hclock : ∀ (i p : Nat) (snap : List Event) (w : Write) (g : Graph), s.commits[i]? = some (p, snap, w) → replayRaw snap = .ok g →
               ∀ es : Env × Sec, envs[p]? = some es → EnvOK g es.1) :
    ∃ L g, readEvents classifyLine limit s.file = .ok L ∧ replayRaw L = .ok g ∧ AllInv g := by
  obtain ⟨hr, hinv, rfl⟩ := reach_abs hf hfw (secDecide_wf hT) h
  obtain ⟨g, hg, hinvg⟩ := secReach_allInv _ (conc_secReach log0 envs nr (abs s) hr h0 hok hclock)
  exact ⟨_, g, hinv.reads.1, hg, hinvg⟩

end Ergo.ProcB
