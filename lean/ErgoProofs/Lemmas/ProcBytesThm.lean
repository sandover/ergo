/-
  The byte-level process system (ErgoModel.ProcBytes) refines the process model: every step other than a death inside a write is a
  `Proc.Step` on the decoded files, and that death leaves a file that loads (`step_sim`, `TornResult`); so every file of every run loads
  (`reach_inv`).  A theorem about `Proc` becomes one about the bytes through `reach_abs` (the decoded run is a run of `Proc`) and
  `Inv.reads` (the bytes under the log's name read back to the decoded log).  Ergo's lock sections are such writers (`cmdWriter_wf`).
-/
import ErgoModel.ProcBytes
import ErgoProofs.Lemmas.WireWf
import ErgoProofs.Lemmas.StorageThm
import ErgoProofs.Lemmas.ProcThm
open Ergo Ergo.Storage Ergo.Codec Ergo.Proc
namespace Ergo.ProcB

/-- required of the writers; ergo's commands meet it (`cmdWriter_wf`) -/
def WritersOK (s : BSys) : Prop :=
  ∀ w ∈ s.writers, ∀ snap wr, AllWf snap → w.decide snap = .ok wr → AllWf wr.events

structure Inv (s : BSys) : Prop where
  cur : s.cur < s.files.length
  loads : ∀ f ∈ s.files, ∃ es, readEvents classifyLine s.limit f = .ok es ∧ AllWf es
  writers : WritersOK s
  /-- a snapshot a writer holds was read from a file of this system -/
  snaps : ∀ w ∈ s.writers, ∀ snap, w.phase = .read snap → AllWf snap

theorem wEvents_eq (wr : Write) : wEvents wr = wr.events := by cases wr <;> rfl

theorem decode_of_ok {limit : Nat} {f : Bytes} {es : List Event} (h : readEvents classifyLine limit f = .ok es) : decode limit f = es := by
  simp [decode, h]

theorem decode_nil (limit : Nat) : decode limit [] = [] := decode_of_ok readEvents_nil

theorem abs_setPhase (s : BSys) (p : Nat) (ph : Phase) : abs (setPhaseB s p ph) = setPhase (abs s) p ph := rfl
theorem abs_setReader (s : BSys) (r : Nat) (ph : RPhase) : abs (setReaderB s r ph) = setReader (abs s) r ph := rfl

theorem abs_inode (s : BSys) (i : Nat) : (abs s).inodes.getD i [] = decode s.limit (s.files.getD i []) := by
  simp only [abs, List.getD_eq_getElem?_getD, List.getElem?_map]
  cases s.files[i]? <;> simp [decode_nil]

theorem Inv.reads {s : BSys} (h : Inv s) : readEvents classifyLine s.limit s.file = .ok (abs s).log ∧ AllWf (abs s).log := by
  have hf : s.file = s.files[s.cur]'h.cur := by simp [BSys.file, List.getD_eq_getElem?_getD, h.cur]
  obtain ⟨es, hes, hesw⟩ := h.loads s.file (hf ▸ List.getElem_mem _)
  have : (abs s).log = es := (abs_inode s s.cur).trans (decode_of_ok hes)
  exact this ▸ ⟨hes, hesw⟩

/-- `Inv` looks at neither the lock nor the ghost lists: `hd`, `cs` are free -/
theorem Inv.setPhase {s : BSys} (h : Inv s) (p : Nat) {ph : Phase} (hph : ∀ snap, ph = .read snap → AllWf snap) {hd : Option Nat}
    {cs : List (Nat × List Event × Write)} : Inv { setPhaseB s p ph with holder := hd, commits := cs } := by
  refine ⟨h.cur, h.loads, fun w' hw' => ?_, fun w' hw' => ?_⟩ <;> rcases mem_modify hw' with hw | ⟨w, hw, rfl⟩
  · exact h.writers w' hw
  · exact h.writers w hw
  · exact h.snaps w' hw
  · exact hph

theorem Inv.short {s : BSys} (h : Inv s) {p : Nat} {w : Writer} {snap : List Event} {wr : Write}
    (h1 : s.writers[p]? = some w) (h2 : w.phase = .read snap) (h3 : w.decide snap = .ok wr) (hfit : Fits s wr.events) :
    Short Wf (encodeEvent s.ets) s.limit wr.events :=
  have hw := List.mem_of_getElem? h1
  short_of_wf s.ets s.limit wr.events (h.writers w hw snap wr (h.snaps w hw snap h2) h3) hfit

theorem Inv.setFile {s : BSys} (h : Inv s) {f : Bytes} {es : List Event} (hr : readEvents classifyLine s.limit f = .ok es) (hw : AllWf es)
    (hist : List (List Event)) :
    Inv { s with files := s.files.set s.cur f, history := hist } ∧
      (abs { s with files := s.files.set s.cur f, history := hist }).log = es := by
  refine ⟨⟨by simpa using h.cur, fun g hg => ?_, h.writers, h.snaps⟩, by simp [abs, Sys.log, h.cur, decode_of_ok hr]⟩
  rcases List.mem_or_eq_of_mem_set hg with h' | h'
  · exact h.loads g h'
  · exact ⟨es, h' ▸ hr, hw⟩

theorem file_writeBytes_replace (s : BSys) (evs : List Event) :
    (writeBytes s (.replace evs)).file = replaceFile (encodeEvent s.ets) evs := by
  simp [writeBytes, BSys.file]

theorem file_writeBytes_append (s : BSys) (evs : List Event) (hc : s.cur < s.files.length) :
    (writeBytes s (.append evs)).file = appendFile classifyLine (encodeEvent s.ets) s.file evs := by
  simp [writeBytes, BSys.file, hc]

theorem abs_writeBytes (s : BSys) (hinv : Inv s) (wr : Write) (hs : Short Wf (encodeEvent s.ets) s.limit wr.events) :
    abs (writeBytes s wr) = writeLog (abs s) wr ∧ Inv (writeBytes s wr) := by
  obtain ⟨hes, hesw⟩ := hinv.reads
  have hlog : decode s.limit s.file = (abs s).log := decode_of_ok hes
  cases wr with
  | append evs =>
    have hr := (appendFile_reads (jsonCodec s.ets) (evs := evs) hes hs).1
    exact ⟨by simp only [writeBytes, writeLog, abs, List.map_set, decode_of_ok hr, hlog], (hinv.setFile hr (allWf_append hesw hs.w) _).1⟩
  | replace evs =>
    have hr := readEvents_linesOf (jsonCodec s.ets) (evs := evs) hs
    refine ⟨?_, by simp [writeBytes], fun f hf => ?_, hinv.writers, hinv.snaps⟩
    · simp only [writeBytes, writeLog, abs, List.map_append, List.map_cons, List.map_nil, List.length_map, replaceFile, decode_of_ok hr]
    · rcases List.mem_append.1 hf with h | h
      · exact hinv.loads f h
      · exact ⟨evs, List.mem_singleton.1 h ▸ hr, hs.w⟩

/-- `c` is what a death inside a write leaves of `b` -/
def Torn (b c : BSys) : Prop :=
  ∃ p w snap evs k, b.writers[p]? = some w ∧ w.phase = .read snap ∧ w.decide snap = .ok (.append evs) ∧
    c = { setPhaseB { b with files := b.files.set b.cur (appendTorn classifyLine (encodeEvent b.ets) b.file evs k) } p .crashed
          with holder := if b.holder = some p then none else b.holder }

theorem not_torn_of_no_read {b c : BSys} (h : ∀ w ∈ b.writers, ∀ snap, w.phase ≠ .read snap) : ¬ Torn b c := by
  rintro ⟨p, w, snap, evs, k, h1, h2, _, _⟩; exact h w (List.mem_of_getElem? h1) snap h2

/-- what a writer killed inside its write leaves (`evs` is bound here: that it is the writer's batch, as `torn_sim` shows, is not recorded) -/
structure TornResult (s s' : BSys) : Prop where
  shows : ∃ (evs : List Event) (n : Nat), n ≤ evs.length ∧ (abs s').log = (abs s).log ++ evs.take n
  others : ∀ i, i ≠ s.cur → (abs s').inodes.getD i [] = (abs s).inodes.getD i []
  same_name : s'.cur = s.cur

/-- the state `BStep.tornWrite` leads to -/
def tornTarget (s : BSys) (p : Nat) (evs : List Event) (k : Nat) : BSys :=
  { setPhaseB { s with files := s.files.set s.cur (appendTorn classifyLine (encodeEvent s.ets) s.file evs k) } p .crashed
    with holder := if s.holder = some p then none else s.holder }

theorem torn_sim (s : BSys) (hinv : Inv s) (p : Nat) (w : Writer) (snap evs : List Event) (k : Nat)
    (h1 : s.writers[p]? = some w) (h2 : w.phase = .read snap) (h3 : w.decide snap = .ok (.append evs)) (hfit : Fits s evs) :
    Inv (tornTarget s p evs k) ∧ TornResult s (tornTarget s p evs k) := by
  have hs := hinv.short h1 h2 h3 hfit
  obtain ⟨hes, hesw⟩ := hinv.reads
  obtain ⟨n, hn, hr⟩ := appendTorn_reads (jsonCodec s.ets) k hes hs
  obtain ⟨hinv1, hlog1⟩ := hinv.setFile hr (allWf_append hesw (hs.take n).w) s.history
  refine ⟨hinv1.setPhase p (by simp), ⟨evs, n, hn, hlog1⟩, fun i hi => ?_, rfl⟩
  simp only [abs, tornTarget, setPhaseB, List.getD_eq_getElem?_getD, List.getElem?_map]
  rw [List.getElem?_set_ne (Ne.symm hi)]

theorem inv_init {f : Bytes} {ws : List (List Event → Except CmdErr Write)} {nr limit : Nat} {ets : Event → String} {es : List Event}
    (hf : readEvents classifyLine limit f = .ok es) (hfw : AllWf es)
    (hw : ∀ d ∈ ws, ∀ snap wr, AllWf snap → d snap = .ok wr → AllWf wr.events) :
    Inv (BSys.init f ws nr limit ets) := by
  refine ⟨Nat.zero_lt_one, fun g hg => by cases List.mem_singleton.1 hg; exact ⟨es, hf, hfw⟩, fun w hw' => ?_, fun w hw' => ?_⟩ <;>
    obtain ⟨d, hd, rfl⟩ := List.mem_map.1 hw'
  · exact hw d hd
  · exact nofun

theorem step_sim (s s' : BSys) (hinv : Inv s) (h : BStep s s') :
    Inv s' ∧ (Proc.Step (abs s) (abs s') ∨ (Torn s s' ∧ TornResult s s')) := by
  cases h with
  | lockOk p w h1 h2 h3 => exact ⟨hinv.setPhase p (by simp), .inl (.lockOk _ p w h1 h2 h3)⟩
  | lockBusy p w q h1 h2 h3 => exact ⟨hinv.setPhase p (by simp), .inl (.lockBusy _ p w q h1 h2 h3)⟩
  | read p w snap h1 h2 h3 =>
    obtain ⟨hr, hwf⟩ := hinv.reads
    cases Except.ok.inj (hr.symm.trans h3)
    exact ⟨hinv.setPhase p fun _ h => Phase.read.inj h ▸ hwf, .inl (.read _ p w h1 h2)⟩
  | decideErr p w snap e h1 h2 h3 => exact ⟨hinv.setPhase p (by simp), .inl (.decideErr _ p w snap e h1 h2 h3)⟩
  | write p w snap wr h1 h2 h3 hfit =>
    obtain ⟨habs, hinv'⟩ := abs_writeBytes s hinv wr (hinv.short h1 h2 h3 (wEvents_eq wr ▸ hfit))
    have := Proc.Step.write (abs s) p w snap wr h1 h2 h3
    rw [← habs] at this
    exact ⟨hinv'.setPhase p (by simp), .inl this⟩
  | tornWrite p w snap evs k h1 h2 h3 hfit =>
    obtain ⟨hi, ht⟩ := torn_sim s hinv p w snap evs k h1 h2 h3 hfit
    exact ⟨hi, .inr ⟨⟨p, w, snap, evs, k, h1, h2, h3, rfl⟩, ht⟩⟩
  | unlockOk p w snap wr h1 h2 => exact ⟨hinv.setPhase p (by simp), .inl (.unlockOk _ p w snap wr h1 h2)⟩
  | unlockErr p w snap e h1 h2 => exact ⟨hinv.setPhase p (by simp), .inl (.unlockErr _ p w snap e h1 h2)⟩
  | crash p w h1 h2 h3 => exact ⟨hinv.setPhase p (by simp), .inl (.crash _ p w h1 h2 h3)⟩
  | rOpen r h1 => exact ⟨{ hinv with }, .inl (.rOpen _ r h1)⟩
  | rRead r i h1 => exact ⟨{ hinv with }, .inl (abs_inode s i ▸ .rRead _ r i h1)⟩

/-- runs without a step related by `Torn`.  `Torn` compares states, so besides every `tornWrite` this leaves out the `crash` of a writer
    between its read and the append it decided on whenever the files it leaves are those of some torn write — always when the tail
    needs no repair (torn after 0 bytes).  Every other death between system calls is a `crash` step and stays in. -/
inductive BReachableNT : BSys → BSys → Prop where
  | refl (s) : BReachableNT s s
  | tail {a b c} : BReachableNT a b → BStep b c → ¬ Torn b c → BReachableNT a c

/-- of all runs, deaths inside a write included -/
theorem reach_inv {a b : BSys} (h : BReachable a b) (ha : Inv a) : Inv b := by
  induction h with
  | refl => exact ha
  | tail _ hstep ih => exact (step_sim _ _ ih hstep).1

theorem reach_sim {a b : BSys} (h : BReachableNT a b) (ha : Inv a) : Proc.Reachable (abs a) (abs b) ∧ Inv b := by
  induction h with
  | refl => exact ⟨.refl _, ha⟩
  | tail _ hstep hnt ih =>
    obtain ⟨hc, hs⟩ := step_sim _ _ ih.2 hstep
    exact ⟨.tail ih.1 (hs.resolve_right fun ht => hnt ht.1), hc⟩

theorem writeBytes_limit (s : BSys) (wr : Write) : (writeBytes s wr).limit = s.limit := by cases wr <;> rfl

theorem step_limit {a b : BSys} (h : BStep a b) : b.limit = a.limit := by
  cases h with
  | write => exact writeBytes_limit _ _
  | _ => rfl

theorem limit_const {a b : BSys} (h : BReachableNT a b) : b.limit = a.limit := by
  induction h with
  | refl => rfl
  | tail _ hstep _ ih => rw [step_limit hstep, ih]

theorem abs_init (f : Bytes) (ws : List (List Event → Except CmdErr Write)) (nr limit : Nat) (ets : Event → String) :
    abs (BSys.init f ws nr limit ets) = Sys.init (decode limit f) ws nr := rfl

theorem reach_abs {f : Bytes} {ws : List (List Event → Except CmdErr Write)} {nr limit : Nat} {ets : Event → String} {es : List Event}
    (hf : readEvents classifyLine limit f = .ok es) (hfw : AllWf es)
    (hw : ∀ d ∈ ws, ∀ snap wr, AllWf snap → d snap = .ok wr → AllWf wr.events)
    {s : BSys} (h : BReachableNT (BSys.init f ws nr limit ets) s) :
    Proc.Reachable (Sys.init es ws nr) (abs s) ∧ Inv s ∧ s.limit = limit := by
  have := reach_sim h (inv_init hf hfw hw)
  rw [abs_init, decode_of_ok hf] at this
  exact ⟨this.1, this.2, limit_const h⟩

theorem init_no_read (f : Bytes) (ws : List (List Event → Except CmdErr Write)) (nr limit : Nat) (ets : Event → String) :
    ∀ w ∈ (BSys.init f ws nr limit ets).writers, ∀ snap, w.phase ≠ .read snap := by
  intro w hw snap
  obtain ⟨_, _, rfl⟩ := List.mem_map.1 hw
  exact nofun

/-- `BReachableNT` has runs that write: writer `p` alone locks, reads (`s2`, where a death inside the write can still strike) and writes -/
theorem solo_run (f : Bytes) (ws : List (List Event → Except CmdErr Write)) (nr limit : Nat) (ets : Event → String) (p : Nat)
    (d : List Event → Except CmdErr Write) (snap : List Event) (wr : Write)
    (hd : ws[p]? = some d) (hread : readEvents classifyLine limit f = .ok snap) (hdec : d snap = .ok wr)
    (hfit : ∀ e ∈ wEvents wr, (encodeEvent ets e).length < limit) :
    let s0 := BSys.init f ws nr limit ets
    let s1 : BSys := { setPhaseB s0 p .locked with holder := some p }
    let s2 := setPhaseB s1 p (.read snap)
    let s3 : BSys := { setPhaseB (writeBytes s2 wr) p (.wrote snap wr) with commits := s2.commits ++ [(p, snap, wr)] }
    BReachable s0 s2 ∧ BReachableNT s0 s3 := by
  intro s0 s1 s2 s3
  have w0 : s0.writers[p]? = some ⟨d, .start⟩ := by simp [s0, BSys.init, hd]
  have w1 : s1.writers[p]? = some ⟨d, .locked⟩ := by simp [s1, setPhaseB, w0]
  have w2 : s2.writers[p]? = some ⟨d, .read snap⟩ := by simp [s2, setPhaseB, w1]
  have st01 : BStep s0 s1 := .lockOk s0 p _ w0 rfl rfl
  have st12 : BStep s1 s2 := .read s1 p _ snap w1 rfl hread
  have st23 : BStep s2 s3 := .write s2 p _ snap wr w2 rfl hdec hfit
  refine ⟨.tail (.tail (.refl _) st01) st12, .tail (.tail (.tail (.refl _) st01 ?_) st12 ?_) st23 ?_⟩
  · exact not_torn_of_no_read (init_no_read _ _ _ _ _)
  · refine not_torn_of_no_read fun w hw snap' => ?_
    rcases mem_modify hw with h' | ⟨y, _, rfl⟩
    · exact init_no_read _ _ _ _ _ w h' snap'
    · exact nofun
  · -- a death inside a write commits nothing
    rintro ⟨_, _, _, _, _, _, _, _, h⟩
    simpa [s3, setPhaseB] using congrArg BSys.commits h

/-- ergo's commands as writers: the lock section run on the log it read.  That its lines fit the reader's limit is not shown (`Fits`) -/
def cmdWriter (env : Env) (sec : Sec) : List Event → Except CmdErr Write := fun log => (runSec log env sec).map (·.1)

theorem cmdWriter_wf (env : Env) (henv : EnvT env) (sec : Sec) (snap : List Event) (wr : Write) (hs : AllWf snap)
    (h : cmdWriter env sec snap = .ok wr) : AllWf wr.events := by
  obtain ⟨⟨w, o⟩, hrun, rfl⟩ := map_ok h
  exact runSec_events_wf snap hs env henv sec w o hrun

theorem claimDecide_eq_cmdWriter (env : Env) (epic : String) :
    claimDecide env.agent epic env.now = cmdWriter env (.claimOldest epic) := by
  funext log
  simp only [claimDecide, cmdWriter, runSec]
  cases replay log with
  | error e => rfl
  | ok g =>
    simp only
    cases secClaimOldest g epic env.agent env.now <;> rfl

end Ergo.ProcB
