/-
  Every store that lock sections can produce, hence every store the CLI can produce (under `EnvOK`: the clock does not run backwards,
  the RNG never yields the empty id), satisfies `AllInv` (`secReach_allInv`, `reach_allInv`, `reach_replay`).  `secStep` sends each
  section kind to its step lemma; the one for `compact` is here: `AllInv` passes along `ObsEq` (`allInv_of_obsEq`), but for `GraphOK`,
  which speaks of fields `Obs` does not show and is carried item by item (`graphOK_compacted`, by `forall_mem_compacted` and `rebuildX`).
-/
import ErgoProofs.Lemmas.CompactObs
import ErgoProofs.Lemmas.Compact
import ErgoProofs.Lemmas.StepUpdate
import ErgoProofs.Lemmas.StepGraphLinks
import ErgoProofs.Lemmas.StepGraphPrune
import ErgoProofs.Lemmas.StepGraphPlan
namespace Ergo

/-- `AllInv` only looks at observables (plus `GraphOK` and the `lastEpic = 0` clause, which are given separately) -/
theorem allInv_of_obsEq {g g' : Graph} (hobs : ObsEq g' g) (hok : GraphOK g')
    (h0 : ∀ t ∈ g'.tasks, t.isEpic = true → t.lastEpic = 0) (hinv : AllInv g) : AllInv g' := by
  have keep : ∀ t ∈ g.tasks, ∃ t' ∈ g'.tasks, t'.id = t.id ∧ t'.isEpic = t.isEpic := fun t ht =>
    let ⟨t', ht', ho⟩ := hobs.symm.counterpart hinv.ok.wf t ht
    ⟨t', ht', (congrArg Obs.id ho).symm, (congrArg Obs.isEpic ho).symm⟩
  refine hinv.mono hok.wf keep (fun t' ht' => .inr ?_) (acyclic_sub hinv.i07.acyclic fun e he => (hobs.2 e).mp he)
    fun e he => .inl ((hobs.2 e).mp he)
  obtain ⟨t, ht, ho⟩ := hobs.counterpart hok.wf t' ht'
  have i := hinv.item ht
  have h1 : t'.isEpic = t.isEpic := congrArg Obs.isEpic ho
  have h2 : t'.epicId = t.epicId := congrArg Obs.epicId ho
  have h3 : t'.st = t.st := congrArg Obs.st ho
  have h4 : t'.claimedBy = t.claimedBy := congrArg Obs.claimedBy ho
  have h5 : t'.id = t.id := congrArg Obs.id ho
  exact ⟨hok.tasks t' ht', by simpa only [TaskInv, h1, h3, h4] using i.inv, h0 t' ht', h5 ▸ i.id_ne, h1 ▸ h2 ▸ i.epicE,
    fun hE => h2 ▸ (i.epicR (h1 ▸ hE)).mono keep⟩

theorem AllInv.ok' {g : Graph} (h : AllInv g) : GraphOK' g := .of_lastEpic_zero h.ok h.epic0

theorem AllInv.compacted {g : Graph} (h : AllInv g) : AllInv (compacted g) :=
  allInv_of_obsEq (obsEq_compacted g h.ok') (graphOK_compacted g h.ok').toGraphOK (compacted_lastEpic g) h

theorem secStep_compact : SecStepOK .compact := by
  intro log g env w out hr hinv henv hrun
  obtain ⟨g0, hrep, rfl⟩ := runSec_ok _ hrun
  cases (replay_eq_raw hr hinv.ok).symm.trans hrep
  exact ⟨_, replayRaw_compact g hinv.ok.wf, hinv.compacted⟩

theorem secStep {log : List Event} {g : Graph} {env : Env} {sec : Sec} {w : Write} {out : SecOut} (hok : SecOK env sec)
    (hr : replayRaw log = .ok g) (hinv : AllInv g) (henv : EnvOK g env) (hrun : runSec log env sec = .ok (w, out)) :
    ∃ g', replayRaw (applyWrite log w) = .ok g' ∧ AllInv g' := by
  cases sec with
  | create isEpic epicId title body follow => exact secStep_create isEpic epicId title body follow hok log g env w out hr hinv henv hrun
  | update id r => exact secStep_update id r log g env w out hr hinv henv hrun
  | links un edges => exact secStep_links un edges log g env w out hr hinv henv hrun
  | claimOldest epic => exact secStep_claimOldest epic log g env w out hok hr hinv henv hrun
  | prune a => exact secStep_prune a log g env w out hr hinv henv hrun
  | compact => exact secStep_compact log g env w out hr hinv henv hrun
  | plan p => exact secStep_plan p hok log g env w out hr hinv henv hrun

theorem allInv_empty : AllInv Graph.empty :=
  .of_items WF_empty ⟨acyclic_nil, fun _ h => nomatch h⟩ fun _ h => nomatch h

theorem secReach_allInv (log : List Event) (h : SecReach log) : ∃ g, replayRaw log = .ok g ∧ AllInv g := by
  induction h with
  | init => exact ⟨Graph.empty, rfl, allInv_empty⟩
  | step env sec w out _ hr henv hok hrun ih =>
    obtain ⟨g', hr', hinv⟩ := ih
    cases hr.symm.trans hr'
    exact secStep hok hr hinv henv hrun

theorem sectionOf_secOK {env : Env} {req : Request} : OkAll (SecOK env) (sectionOf env.agent req) := by
  intro s h
  have hs := sectionOf_ok s h
  cases req with
  | newTask i | newEpic i => obtain ⟨_, _, _, _, rfl, ht, -⟩ := hs; exact ht
  | set id i => obtain ⟨_, rfl⟩ := hs; trivial
  | claim id => obtain ⟨-, rfl⟩ := hs; trivial
  | claimOldest epic => obtain ⟨ha, rfl⟩ := hs; exact ha
  | sequence args => obtain ⟨_, _, rfl⟩ := hs; trivial
  | plan p => obtain ⟨_, -, hv, rfl⟩ := hs; exact hv
  | prune y | compact => subst hs; trivial

theorem secReach_of_reachOK (log : List Event) (h : ReachOK log) : SecReach log := by
  induction h with
  | init => exact .init
  | @step log g env req _ hr henv ih =>
    rcases runCmd_cases log env req with h | ⟨sec, w, out, hs, hrun, hres⟩
    · rw [h.1]; exact ih
    · rw [hres]; exact .step env sec w out ih hr henv (sectionOf_secOK _ hs) hrun

theorem reach_allInv (log : List Event) (h : ReachOK log) : ∃ g, replayRaw log = .ok g ∧ AllInv g :=
  secReach_allInv log (secReach_of_reachOK log h)

/-- what every command actually computes on (`replay` = raw replay + legacy-title pass) -/
theorem reach_replay (log : List Event) (h : ReachOK log) : ∃ g, replay log = .ok g ∧ AllInv g := by
  obtain ⟨g, hr, hinv⟩ := reach_allInv log h
  exact ⟨g, replay_eq_raw hr hinv.ok, hinv⟩

theorem reach_compact (log : List Event) (h : ReachOK log) :
    ∃ g, replay log = .ok g ∧ AllInv g ∧ replay (compactEvents g) = .ok (compacted g) ∧ ObsEq (compacted g) g :=
  let ⟨g, hr, hinv⟩ := reach_replay log h
  ⟨g, hr, hinv, replay_compact g hinv.ok', obsEq_compacted g hinv.ok'⟩

end Ergo
