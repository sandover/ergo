/-
  The invariants as statements about the bytes on disk: `DiskReach` runs `FileLog` (the bytes read back to the log) and `ReachOK` (the log
  satisfies every invariant) in step; `disk_allInv` joins the two.
-/
import ErgoProofs.Lemmas.FileLog
import ErgoProofs.Lemmas.ReachInv
open Ergo Ergo.Storage Ergo.Codec
namespace Ergo.Codec

/-- `FileLog` under the assumptions of `ReachOK` as well: each command's environment is `EnvOK` (see there), besides `EnvT` and the
    length premise of `FileLog.step` -/
inductive DiskReach (limit : Nat) : List Event → Bytes → Prop where
  | init : DiskReach limit [] []
  | step {log : List Event} {f : Bytes} {g : Graph} (env : Env) (req : Request) (ets : Event → String) :
      DiskReach limit log f → replayRaw log = .ok g → EnvOK g env → EnvT env →
      (∀ e ∈ (runCmd log env req).log, (encodeEvent ets e).length < limit) →
      DiskReach limit (runCmd log env req).log (fileAfter ets f (runCmd log env req).write)

theorem diskReach_fileLog {limit : Nat} {log : List Event} {f : Bytes} (h : DiskReach limit log f) : FileLog limit log f := by
  induction h with
  | init => exact .init
  | step env req ets _ _ _ ht hl ih => exact .step env req ets ih ht hl

theorem diskReach_reachOK {limit : Nat} {log : List Event} {f : Bytes} (h : DiskReach limit log f) : ReachOK log := by
  induction h with
  | init => exact .init
  | step env req ets _ hr he _ _ ih => exact .step env req ih hr he

theorem disk_allInv {limit : Nat} {log : List Event} {f : Bytes} (h : DiskReach limit log f) :
    ∃ g, readEvents classifyLine limit f = .ok log ∧ replay log = .ok g ∧ AllInv g := by
  obtain ⟨g, hr, hinv⟩ := reach_replay log (diskReach_reachOK h)
  exact ⟨g, (fileLog_reads (diskReach_fileLog h)).1, hr, hinv⟩

end Ergo.Codec
