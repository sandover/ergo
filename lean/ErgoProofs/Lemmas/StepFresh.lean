/-
  Items as `freshTask` makes them, in state `todo`: replaying the `newItem` event appends the item (`applyEvent_evOf`), and the item
  meets the per-item clauses of `AllInv` (`itemOK_fresh`).  Used by `create` (StepUpdate.lean) and `plan` (StepGraphPlan.lean).
-/
import ErgoProofs.Lemmas.TaskStep
import ErgoProofs.Inv
namespace Ergo

/-- the `newItem` line that creates `t`, in state `todo` -/
def evOf (t : Task) : Event := .newItem t.isEpic t.id t.uuid t.epicId .todo t.title t.body (some t.createdAt)

/-- `t` is as `freshTask` makes it: `todo`, unclaimed, no results, no `last…` stamp -/
def IsFresh (t : Task) : Prop := t = freshTask t.isEpic t.id t.uuid t.epicId t.title t.body t.createdAt

theorem isFresh_freshTask (isEpic : Bool) (id uuid epicId title body : String) (now : Time) :
    IsFresh (freshTask isEpic id uuid epicId title body now) := rfl

theorem freshTask_eq_newTask (isEpic : Bool) (id uuid epicId title body : String) (now : Time) :
    freshTask isEpic id uuid epicId title body now = newTask isEpic id uuid epicId .todo title body now := rfl

theorem applyEvent_evOf (g : Graph) (t : Task) (hf : IsFresh t) (ht : g.tombed t.id = false) (hh : g.has t.id = false) :
    applyEvent g (evOf t) = .ok { g with tasks := g.tasks ++ [t] } := by
  rw [evOf, applyEvent_newItem g _ _ _ _ _ _ _ _ ht hh, ← freshTask_eq_newTask, ← hf]

theorem taskInv_freshTask (isEpic : Bool) (id uuid epicId title body : String) (now : Time) :
    TaskInv (freshTask isEpic id uuid epicId title body now) :=
  ⟨fun _ => ⟨rfl, rfl⟩, fun _ => ⟨rfl, rfl⟩⟩

theorem itemOK_fresh {g : Graph} {t : Task} (hf : IsFresh t) (hti : Text.isBlank t.title = false) (hc : t.createdAt ≠ 0)
    (hid : t.id ≠ "") (hE : t.isEpic = true → t.epicId = "") (hR : t.isEpic = false → EpicRef g t.epicId) : ItemOK g t := by
  refine ⟨?_, hf ▸ taskInv_freshTask .., fun _ => hf ▸ rfl, hid, hE, hR⟩
  rw [hf]
  refine ⟨?_, ?_, ?_, ?_, hti, ?_, hc⟩
  · exact (maxTimes_eq (by simp [freshTask]) (by simp [freshTask])).symm  -- `createdAt` is in the list and bounds it
  · intro h; exact absurd rfl h
  · intro _; rfl
  · simp [freshTask]
  · intro _
    simp only [freshTask]
    exact (ite_self _).symm

end Ergo
