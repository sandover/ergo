/-
  Lexical paths (ErgoModel.Path), as `List Char`: `splitSlash_join`, `clean_shape`, `join_abs`, and how the components of a path show
  in `hasPrefix` / `containsSub`, which is what result-path validation tests.  Then `iterDir` and `initFiles`, for C18.
-/
import ErgoModel.Path
namespace Ergo.Path

/-- a component that `Clean` keeps as a name -/
def IsName (c : P) : Prop := c ≠ [] ∧ c ≠ ['.'] ∧ c ≠ dotdot ∧ '/' ∉ c

theorem splitSlash_ne_nil (p : P) : splitSlash p ≠ [] := by
  fun_cases splitSlash p <;> simp

theorem splitSlash_cons {c : Char} {cs l : P} {ls : List P} (h : splitSlash cs = l :: ls) :
    splitSlash (c :: cs) = if c == '/' then [] :: l :: ls else (c :: l) :: ls := by
  rw [splitSlash, h]

theorem splitSlash_join (p : P) : joinSlash (splitSlash p) = p := by
  fun_induction splitSlash p with
  | case1 => rfl
  | case2 c cs h => exact absurd h (splitSlash_ne_nil cs)
  | case3 c cs l ls h hc ih => rw [h] at ih; simp_all [joinSlash]
  | case4 c cs l ls h hc ih => rw [h] at ih; cases ls <;> simp_all [joinSlash]

theorem splitSlash_no_slash (p : P) : ∀ c ∈ splitSlash p, '/' ∉ c := by
  fun_induction splitSlash p with
  | case1 => simp
  | case2 c cs h => exact absurd h (splitSlash_ne_nil cs)
  | case3 c cs l ls h hc ih => rw [h] at ih; simpa using ih
  | case4 c cs l ls h hc ih =>
    rw [h, List.forall_mem_cons] at ih
    exact List.forall_mem_cons.2 ⟨List.not_mem_cons_of_ne_of_not_mem (fun e => hc (beq_iff_eq.2 e.symm)) ih.1, ih.2⟩

theorem cleanStep_inv (rooted : Bool) (st : List P × Nat) (comp : P) (hc : '/' ∉ comp) (h : ∀ c ∈ st.1, IsName c) :
    ∀ c ∈ (cleanStep rooted st comp).1, IsName c := by
  fun_cases cleanStep rooted st comp with
  | case2 => exact fun c hc' => h c (List.dropLast_subset _ hc')  -- `..` takes the last name away
  | case5 out ups h1 h2 =>  -- `comp` is appended: it is a name
    simp only [Bool.or_eq_true, beq_iff_eq, not_or] at h1 h2
    exact List.forall_mem_append.2 ⟨h, List.forall_mem_singleton.2 ⟨h1.1, h1.2, h2, hc⟩⟩
  | _ => exact h

theorem clean_shape (p : P) (hrel : isAbs p = false) (hne : p ≠ []) :
    ∃ (k : Nat) (names : List P), (∀ c ∈ names, IsName c) ∧
      ((k = 0 ∧ names = [] ∧ clean p = ['.']) ∨ ((k ≠ 0 ∨ names ≠ []) ∧ clean p = joinSlash (List.replicate k dotdot ++ names))) := by
  have hinv : ∀ c ∈ ((splitSlash p).foldl (cleanStep false) ([], 0)).1, IsName c :=
    List.foldlRecOn (motive := fun st => ∀ c ∈ st.1, IsName c) _ _ (by simp) fun st h comp hc =>
      cleanStep_inv false st comp (splitSlash_no_slash p comp hc) h
  generalize hst : (splitSlash p).foldl (cleanStep false) ([], 0) = st at hinv
  obtain ⟨out, ups⟩ := st
  refine ⟨ups, out, hinv, ?_⟩
  unfold clean
  cases ups <;> cases out <;> simp [hne, hrel, hst, List.replicate_succ]

theorem clean_rooted (q : P) : ∃ cs, clean ('/' :: q) = '/' :: cs := by
  unfold clean
  simp [isAbs]

theorem join_abs (repo rel : P) (habs : isAbs repo = true) : ∃ cs, join [repo, rel] = '/' :: cs := by
  obtain ⟨q, rfl⟩ : ∃ q, repo = '/' :: q := by cases repo <;> simp_all [isAbs]
  unfold join
  cases rel <;> simp [List.filter] <;> exact clean_rooted _

theorem splitSlash_head (p x : P) (h : (splitSlash p).head? = some x) :
    p = x ∨ ∃ rest, p = x ++ '/' :: rest := by
  fun_induction splitSlash p generalizing x with
  | case1 => simp_all
  | case2 c cs h' => exact absurd h' (splitSlash_ne_nil cs)
  | case3 c cs l ls h' hc ih =>
    cases h
    exact .inr ⟨cs, congrArg (· :: cs) (eq_of_beq hc)⟩
  | case4 c cs l ls h' hc ih =>
    cases h
    rcases ih l (by simp [h']) with h | ⟨rest, h⟩
    · left; rw [h]
    · right; exact ⟨rest, by rw [h]; rfl⟩

theorem hasPrefix_of_head (p x : P) (h : (splitSlash p).head? = some x) : hasPrefix p x = true := by
  rcases splitSlash_head p x h with rfl | ⟨rest, rfl⟩ <;> simp [hasPrefix]

/-- in the form of `validateResultPath`'s test for `.ergo` -/
theorem hasPrefix_slash_of_head (p x : P) (h : (splitSlash p).head? = some x) :
    (hasPrefix p (x ++ ['/']) || p == x) = true := by
  rcases splitSlash_head p x h with rfl | ⟨rest, rfl⟩ <;> simp [hasPrefix]

theorem containsSub_iff (p sub : P) :
    containsSub p sub = true ↔ ∃ i, i ≤ p.length ∧ sub.isPrefixOf (p.drop i) = true := by
  simp [containsSub, List.any_eq_true, List.mem_range, Nat.lt_succ_iff]

theorem containsSub_of_prefix (p sub : P) (h : sub.isPrefixOf p = true) : containsSub p sub = true :=
  (containsSub_iff p sub).2 ⟨0, Nat.zero_le _, by simpa using h⟩

theorem containsSub_cons (c : Char) (p sub : P) (h : containsSub p sub = true) : containsSub (c :: p) sub = true := by
  obtain ⟨i, hi, hp⟩ := (containsSub_iff p sub).1 h
  exact (containsSub_iff _ sub).2 ⟨i + 1, by simpa using hi, by simpa using hp⟩

theorem splitSlash_tail (p x : P) (h : x ∈ (splitSlash p).tail) : containsSub p ('/' :: x) = true := by
  fun_induction splitSlash p with
  | case1 => simp at h
  | case2 c cs h' => exact absurd h' (splitSlash_ne_nil cs)
  | case3 c cs l ls h' hc ih =>
    rw [h'] at ih
    rcases List.mem_cons.1 h with rfl | h
    · have := hasPrefix_of_head cs x (by simp [h'])
      exact containsSub_of_prefix _ _ (by simpa [hasPrefix, eq_of_beq hc] using this)
    · exact containsSub_cons _ _ _ (ih h)
  | case4 c cs l ls h' hc ih => rw [h'] at ih; exact containsSub_cons _ _ _ (ih h)

/-- what `validateResultPath` tests for `..` holds of every component -/
theorem hasPrefix_or_containsSub_of_mem (p x : P) (h : x ∈ splitSlash p) : (hasPrefix p x || containsSub p ('/' :: x)) = true := by
  obtain ⟨l, ls, hs⟩ := List.exists_cons_of_ne_nil (splitSlash_ne_nil p)
  rcases List.mem_cons.1 (hs ▸ h) with rfl | h'
  · simp [hasPrefix_of_head p x (by simp [hs])]
  · simp [splitSlash_tail p x (by simp [hs, h'])]

def iterDir : Nat → P → P
  | 0, p => p
  | k + 1, p => iterDir k (dir p)

theorem init_keeps_log (plans events lock : Bool) (h : plans = true ∨ events = true) :
    let (p', e', _) := initFiles plans events lock
    eventsFile p' e' = eventsFile plans events := by
  cases plans <;> cases events <;> cases lock <;> simp_all [initFiles, eventsFile]

theorem init_idempotent (plans events lock : Bool) :
    let (p', e', l') := initFiles plans events lock
    initFiles p' e' l' = (p', e', l') := by
  cases plans <;> cases events <;> cases lock <;> simp [initFiles]

end Ergo.Path
