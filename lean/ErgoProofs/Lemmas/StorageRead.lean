/-
  The reader (`readLoop`, `readEvents` of ErgoModel.Storage).  Every round of the loop, and `readEvents` once more after it, classifies
  the line left pending by the round before (`flush`, `finish`); `readLoop_cons` is the loop in those terms.  From it: when reading
  succeeds and with what (`readEvents_joinLines`, `readEvents_join_frag`, by `readLoop_finish_iff`); a short rest after a closed file
  (`readEvents_rest`, by `readLoop_append`; hence `readEvents_fragment`); where the errors come from (`readEvents_blames`).
-/
import ErgoProofs.Lemmas.StorageSplit
namespace Ergo.Storage

variable {classify : Bytes → LineClass} {limit : Nat}

def evOf : LineClass → List Event
  | .ev e => [e]
  | _ => []

/-- the class of the pending line; none pending counts as a blank one (no error, no event) -/
def pendClass (classify : Bytes → LineClass) : Option (Nat × Bytes) → LineClass
  | none => .blank
  | some (_, pl) => classify pl

@[simp] theorem pendClass_none : pendClass classify none = .blank := rfl
@[simp] theorem pendClass_some (n : Nat) (t : Bytes) : pendClass classify (some (n, t)) = classify t := rfl

def flush (classify : Bytes → LineClass) (acc : List Event) : Option (Nat × Bytes) → Except ReadErr (List Event)
  | none => .ok acc
  | some (pn, pl) =>
    match classify pl with
    | .bad => .error (.badLine pn)
    | .blank => .ok acc
    | .ev e => .ok (acc ++ [e])

theorem flush_cases (classify : Bytes → LineClass) (acc : List Event) (p : Option (Nat × Bytes)) :
    (pendClass classify p ≠ .bad ∧ flush classify acc p = .ok (acc ++ evOf (pendClass classify p))) ∨
    ∃ pn pl, p = some (pn, pl) ∧ classify pl = .bad ∧ flush classify acc p = .error (.badLine pn) := by
  rcases p with _ | ⟨pn, pl⟩
  · exact .inl ⟨nofun, by simp [flush, pendClass, evOf]⟩
  · cases h : classify pl with
    | bad => exact .inr ⟨pn, pl, rfl, h, by simp [flush, h]⟩
    | blank => exact .inl ⟨by simp [pendClass, h], by simp [flush, pendClass, evOf, h]⟩
    | ev e => exact .inl ⟨by simp [pendClass, h], by simp [flush, pendClass, evOf, h]⟩

theorem readLoop_nil (n : Nat) (p : Option (Nat × Bytes)) (acc : List Event) :
    readLoop classify limit [] n p acc = .ok (acc, p) := by
  simp [readLoop]

theorem readLoop_cons (l : Bytes) (rest : List Bytes) (n : Nat) (p : Option (Nat × Bytes)) (acc : List Event) :
    readLoop classify limit (l :: rest) n p acc =
      if l.length ≥ limit then .error .tooLong
      else (flush classify acc p).bind fun a => readLoop classify limit rest (n + 1) (some (n + 1, l)) a := by
  simp only [readLoop]
  split
  · rfl
  · rcases p with _ | ⟨pn, pl⟩
    · rfl
    · simp only [flush]
      cases classify pl <;> rfl

/-- one round, under any continuation `k`: the rounds then chain under `.bind (finish …)` (`readLoop_finish_iff`) -/
theorem readLoop_cons_iff {β} (k : List Event × Option (Nat × Bytes) → Except ReadErr β) (x : Bytes) (rest : List Bytes) (n : Nat)
    (p : Option (Nat × Bytes)) (acc : List Event) (v : β) :
    (readLoop classify limit (x :: rest) n p acc).bind k = .ok v ↔
      pendClass classify p ≠ .bad ∧ x.length < limit ∧
        (readLoop classify limit rest (n + 1) (some (n + 1, x)) (acc ++ evOf (pendClass classify p))).bind k = .ok v := by
  rw [readLoop_cons]
  by_cases hx : x.length ≥ limit
  · rw [if_pos hx]
    exact iff_of_false nofun fun h => Nat.not_lt.2 hx h.2.1
  · rw [if_neg hx]
    rcases flush_cases classify acc p with ⟨hg, he⟩ | ⟨pn, pl, rfl, hb, he⟩ <;> rw [he]
    · exact ⟨fun h => ⟨hg, Nat.lt_of_not_ge hx, h⟩, fun h => h.2.2⟩
    · exact iff_of_false nofun fun h => h.1 hb

/-- what `readEvents` does after the loop: a pending line that does not parse is an error only if the file ends in '\n' -/
def finish (classify : Bytes → LineClass) (b : Bool) (r : List Event × Option (Nat × Bytes)) : Except ReadErr (List Event) :=
  if b then flush classify r.1 r.2 else .ok (r.1 ++ evOf (pendClass classify r.2))

theorem readEvents_eq (f : Bytes) :
    readEvents classify limit f =
      (readLoop classify limit (scanLines f) 0 none []).bind (finish classify (endsWithNL f)) := by
  unfold readEvents
  cases h : readLoop classify limit (scanLines f) 0 none [] with
  | error e => rfl
  | ok r =>
    obtain ⟨acc, _ | ⟨pn, pl⟩⟩ := r
    · cases endsWithNL f <;> simp [Except.bind, finish, flush, evOf]
    · cases endsWithNL f <;> cases hc : classify pl <;> simp [Except.bind, finish, flush, evOf, hc]

theorem finish_ok_iff (b : Bool) (acc es : List Event) (p : Option (Nat × Bytes)) :
    finish classify b (acc, p) = .ok es ↔ (b = true → pendClass classify p ≠ .bad) ∧ es = acc ++ evOf (pendClass classify p) := by
  cases b
  · simp [finish, eq_comm]
  · rcases flush_cases classify acc p with ⟨hg, he⟩ | ⟨pn, pl, rfl, hb, he⟩
    · simp [finish, he, hg, eq_comm]
    · simp [finish, he, pendClass_some, hb]

theorem readLoop_finish_iff (b : Bool) (T : List Bytes) (t : Bytes) (n : Nat) (p : Option (Nat × Bytes)) (acc es : List Event) :
    (readLoop classify limit (T ++ [t]) n p acc).bind (finish classify b) = .ok es ↔
      pendClass classify p ≠ .bad ∧ (∀ x ∈ T, x.length < limit ∧ classify x ≠ .bad) ∧ t.length < limit ∧ (b = true → classify t ≠ .bad) ∧
        es = acc ++ evOf (pendClass classify p) ++ T.flatMap (fun x => evOf (classify x)) ++ evOf (classify t) := by
  induction T generalizing n p acc with
  | nil =>
    rw [List.nil_append, readLoop_cons_iff, readLoop_nil]
    simp only [Except.bind, finish_ok_iff, pendClass_some, List.not_mem_nil, false_imp_iff, implies_true, true_and, List.flatMap_nil,
      List.append_nil]
  | cons x T ih =>
    rw [List.cons_append, readLoop_cons_iff, ih]
    simp only [pendClass_some, List.forall_mem_cons, List.flatMap_cons, List.append_assoc, and_assoc]

theorem readEvents_nil : readEvents classify limit [] = .ok [] := by
  simp [readEvents, scanLines_nil, readLoop]

theorem readEvents_snoc {f : Bytes} {L : List Bytes} {l : Bytes} (hs : scanLines f = (L ++ [l]).map dropCR) {es : List Event} :
    readEvents classify limit f = .ok es ↔
      (∀ x ∈ L, (dropCR x).length < limit ∧ classify (dropCR x) ≠ .bad) ∧ (dropCR l).length < limit ∧
        (endsWithNL f = true → classify (dropCR l) ≠ .bad) ∧
        es = L.flatMap (fun x => evOf (classify (dropCR x))) ++ evOf (classify (dropCR l)) := by
  rw [List.map_append, List.map_singleton] at hs
  rw [readEvents_eq, hs, readLoop_finish_iff]
  simp only [pendClass_none, evOf, List.nil_append, List.append_nil, List.forall_mem_map, List.flatMap_map]
  exact and_iff_right nofun

theorem readEvents_joinLines {ls : List Bytes} (hls : ∀ l ∈ ls, NL ∉ l) {es : List Event} :
    readEvents classify limit (joinLines ls) = .ok es ↔
      (∀ l ∈ ls, (dropCR l).length < limit ∧ classify (dropCR l) ≠ .bad) ∧ es = ls.flatMap (fun l => evOf (classify (dropCR l))) := by
  rcases List.eq_nil_or_concat ls with rfl | ⟨L, l, rfl⟩
  · simp [readEvents_nil, eq_comm]
  · rw [List.concat_eq_append] at hls ⊢
    rw [readEvents_snoc (scanLines_joinLines hls), endsWithNL_joinLines _ (by simp)]
    simp only [List.forall_mem_append, List.forall_mem_singleton, List.flatMap_append, List.flatMap_singleton, and_assoc, true_imp_iff]

theorem readEvents_join_frag {ls : List Bytes} {frag : Bytes} (hls : ∀ l ∈ ls, NL ∉ l) (hf : NL ∉ frag) (hne : frag ≠ []) {es : List Event} :
    readEvents classify limit (joinLines ls ++ frag) = .ok es ↔
      (∀ l ∈ ls, (dropCR l).length < limit ∧ classify (dropCR l) ≠ .bad) ∧ (dropCR frag).length < limit ∧
        es = ls.flatMap (fun l => evOf (classify (dropCR l))) ++ evOf (classify (dropCR frag)) := by
  rw [readEvents_snoc (scanLines_join_frag hls hf hne), endsWithNL_join_frag ls hf hne]
  simp only [Bool.false_eq_true, false_imp_iff, true_and]

theorem readLoop_append (ts us : List Bytes) (n : Nat) (p : Option (Nat × Bytes)) (acc : List Event) :
    readLoop classify limit (ts ++ us) n p acc =
      (readLoop classify limit ts n p acc).bind
        (fun r => readLoop classify limit us (n + ts.length) r.2 r.1) := by
  induction ts generalizing n p acc with
  | nil => simp [readLoop_nil, Except.bind]
  | cons t ts ih =>
    rw [List.cons_append, readLoop_cons, readLoop_cons, List.length_cons, Nat.add_comm ts.length, ← Nat.add_assoc]
    split
    · rfl
    · cases flush classify acc p with
      | error e => rfl
      | ok a => exact ih ..

/-- an equation between results, not only for `.ok`: C05/C11 compare the errors too -/
theorem readEvents_rest {f frag : Bytes} (hcl : Closed f) (hnl : NL ∉ frag) (hne : frag ≠ []) (hlen : (dropCR frag).length < limit) :
    readEvents classify limit (f ++ frag) = (readEvents classify limit f).map (· ++ evOf (classify (dropCR frag))) := by
  obtain ⟨ls, hls, rfl⟩ := decomp_closed hcl
  rw [readEvents_eq, readEvents_eq, scanLines_join_frag hls hnl hne, scanLines_joinLines hls, List.map_append, readLoop_append,
    endsWithNL_join_frag ls hnl hne]
  cases h0 : readLoop classify limit (ls.map dropCR) 0 none [] with
  | error e => rfl
  | ok r =>
    -- the rest makes the loop flush the line pending before it, as the end of `readEvents` does on a closed file
    have hfin : finish classify (endsWithNL (joinLines ls)) r = flush classify r.1 r.2 := by
      cases ls with
      | nil => rw [List.map_nil, readLoop_nil] at h0; cases h0; rfl
      | cons l ls => rw [endsWithNL_joinLines _ (by simp)]; rfl
    simp only [Except.bind, List.map, readLoop_cons, readLoop_nil, if_neg (Nat.not_le.2 hlen), hfin]
    cases flush classify r.1 r.2 <;> rfl

/-- C05/C11 (torn tail irrelevant): an unparsable rest after the last newline is invisible, errors included -/
theorem readEvents_fragment {f frag : Bytes} (hcl : Closed f) (hnl : NL ∉ frag) (hne : frag ≠ [])
    (hbad : classify (dropCR frag) = .bad) (hlen : frag.length < limit) :
    readEvents classify limit (f ++ frag) = readEvents classify limit f := by
  rw [readEvents_rest hcl hnl hne (Nat.lt_of_le_of_lt (dropCR_length_le frag) hlen), hbad]
  cases readEvents classify limit f <;> simp [Except.map, evOf]

/-- the pending line, if any, is token `pn` (from 1) of `all` -/
def PendAt (all : List Bytes) (p : Option (Nat × Bytes)) : Prop :=
  ∀ pn pl, p = some (pn, pl) → 1 ≤ pn ∧ all[pn - 1]? = some pl

/-- an error that the tokens `all` justify: one reaches the limit; the `k`-th (from 1) does not parse -/
def Blames (classify : Bytes → LineClass) (limit : Nat) (all : List Bytes) : ReadErr → Prop
  | .tooLong => ∃ l ∈ all, l.length ≥ limit
  | .badLine k => 1 ≤ k ∧ ∃ l, all[k - 1]? = some l ∧ classify l = .bad

theorem flush_blames {all : List Bytes} {acc : List Event} {p : Option (Nat × Bytes)} {e : ReadErr} (hp : PendAt all p)
    (h : flush classify acc p = .error e) : Blames classify limit all e := by
  rcases flush_cases classify acc p with ⟨-, he⟩ | ⟨pn, pl, rfl, hb, he⟩ <;> rw [he] at h <;> cases h
  exact ⟨(hp pn pl rfl).1, pl, (hp pn pl rfl).2, hb⟩

theorem readLoop_blames (all ts : List Bytes) (n : Nat) (p : Option (Nat × Bytes)) (acc : List Event)
    (hts : all.drop n = ts) (hp : PendAt all p) :
    (∀ e, readLoop classify limit ts n p acc = .error e → Blames classify limit all e) ∧
    (∀ r, readLoop classify limit ts n p acc = .ok r → PendAt all r.2) := by
  induction ts generalizing n p acc with
  | nil =>
    rw [readLoop_nil]
    exact ⟨nofun, fun _ h => by cases h; exact hp⟩
  | cons t ts ih =>
    rw [readLoop_cons]
    split
    · exact ⟨fun e h => by cases h; exact ⟨t, List.mem_of_mem_drop (hts ▸ List.mem_cons_self), ‹_›⟩, nofun⟩
    · cases he : flush classify acc p with
      | error e => exact ⟨fun e h => by cases h; exact flush_blames hp he, nofun⟩
      | ok a =>
        -- `t` is token `n + 1`
        refine ih (n + 1) _ _ (by rw [← List.drop_drop, hts]; rfl) ?_
        intro _ _ e
        cases e
        exact ⟨Nat.le_add_left .., by rw [Nat.add_sub_cancel, ← Nat.add_zero n, ← List.getElem?_drop, hts]; rfl⟩

/-- C12: `tooLong` only when some line reaches the limit; the line number in "invalid JSON" names a physical line that does not parse -/
theorem readEvents_blames {f : Bytes} {e : ReadErr} (h : readEvents classify limit f = .error e) :
    Blames classify limit (scanLines f) e := by
  have hl := readLoop_blames (classify := classify) (limit := limit) (scanLines f) _ 0 none [] rfl nofun
  rw [readEvents_eq] at h
  cases h0 : readLoop classify limit (scanLines f) 0 none [] with
  | error e' => rw [h0] at h; cases h; exact hl.1 _ h0
  | ok r =>
    rw [h0] at h
    have h : finish classify (endsWithNL f) r = .error e := h
    unfold finish at h
    split at h
    · exact flush_blames (hl.2 r h0) h
    · cases h

end Ergo.Storage
