/-
  A run of events as `set` writes them (`SetEv`; the two events of `claim` are of that kind) for one live item, all stamped with one
  clock reading `now`, positive and not earlier than the item's `updatedAt`, keeps the per-item facts (`StepOK`; `foldl_StepOK`), hence
  `AllInv` of the graph in which the item is rewritten (`AllInv.updates`).  `updateEvents_task`: the events of `updateEvents` name an
  epic that exists and leave the item obeying the claim rule (`TaskInv`).
-/
import ErgoProofs.Inv
import ErgoProofs.Lemmas.Sections
import ErgoProofs.Lemmas.SetTask
import ErgoProofs.Lemmas.ReplayInv
namespace Ergo

/-- `le_updated` bounds by `now` the clock readings of which `updatedAt` is the maximum (`TaskOK.updated`): all of `Task.times` but
    `lastClaim`, since a claim does not move `updated_at`.  `R x`: `x` may be a task's epic.  It is a parameter because the section
    knows `EpicRef` of the graph it read, and for `create` that is not the graph `AllInv.updates` rewrites, which already holds the new
    item (`hRsub` there carries `R` over). -/
structure StepOK (now : Time) (R : Id → Prop) (k : Task) : Prop extends TaskOK k where
  le_updated : k.updatedAt ≤ now
  epic0 : k.isEpic = true → k.lastEpic = 0
  epicR : k.isEpic = false → R k.epicId
  epicE : k.isEpic = true → k.epicId = ""

theorem SetEv.isUpdateFor {t u now e} (h : SetEv t u now e) : IsUpdateFor t.id e := by
  cases h <;> exact rfl

/-- `k` is `t` after some of the events; `hR`: the epic the request names, if any, has the property -/
theorem stepTask_StepOK {t : Task} {u : Updates} {now : Time} {R : Id → Prop} {k : Task} {e : Event} (hpos : 0 < now)
    (hR : ∀ x, u.epic = some x → t.isEpic = false → R x) (hk : k.isEpic = t.isEpic)
    (h : StepOK now R k) (he : SetEv t u now e) : StepOK now R (stepTask k e) := by
  have hu := maxTime_eq_right h.le_updated
  have hpos' : now ≠ 0 := Nat.ne_of_gt hpos
  -- the readings of which `updatedAt` is the greatest are not later than `now` either
  have hle : ∀ x ∈ [k.createdAt, k.lastTitle, k.lastBody, k.lastEpic, k.lastState] ++ k.results.map (·.time), x ≤ now :=
    fun x hx => Nat.le_trans (le_maxTimes hx) (h.updated ▸ h.le_updated)
  simp only [List.forall_mem_append, List.forall_mem_cons, List.forall_mem_map] at hle
  obtain ⟨⟨hc, hti, hbo, hep, hst, -⟩, hr⟩ := hle
  -- so when an event puts `now` in the place of one of them (or adds it as a result), `now` is the greatest
  have upd : ∀ {a b c d e : Time} {rs : List ResultRec}, now ∈ [a, b, c, d, e] ++ rs.map (·.time) →
      a ≤ now → b ≤ now → c ≤ now → d ≤ now → e ≤ now → (∀ r ∈ rs, r.time ≤ now) →
      now = maxTimes ([a, b, c, d, e] ++ rs.map (·.time)) := fun hm ha hb hc hd he hr =>
    (maxTimes_eq hm (List.forall_mem_append.2 ⟨by simp [ha, hb, hc, hd, he], List.forall_mem_map.2 hr⟩)).symm
  have le := Nat.le_refl now
  cases he with
  | state _ =>
    simp only [stepTask, hu]
    exact { h with
      le_updated := le, updated := upd (by simp) hc hti hbo hep le hr
      claimTime := by
        split
        · simp
        · exact h.claimTime }
  | claim _ => exact { h with claimTime := fun _ => hpos' }
  | unclaim => exact { h with claimTime := fun hx => absurd rfl hx }
  | title _ hs =>
    simp only [stepTask, hu]
    exact { h with
      le_updated := le, updated := upd (by simp) hc le hbo hep hst hr
      titled := Text.trimSpace_not_blank _ hs, titleKept := fun hx => absurd hx hpos' }
  | body =>
    simp only [stepTask, hu]
    exact { h with le_updated := le, updated := upd (by simp) hc hti le hep hst hr }
  | epic hx hE =>
    have hE' : ∀ {p : Prop}, k.isEpic = true → p := fun hx => absurd (hE ▸ hk ▸ hx) (by decide)
    simp only [stepTask, hu]
    exact { h with
      le_updated := le, updated := upd (by simp) hc hti hbo le hst hr
      epicFixed := hE', epic0 := hE', epicE := hE', epicR := fun _ => hR _ hx hE }
  | result =>
    simp only [stepTask, hu]
    exact { h with
      le_updated := le
      updated := upd (by simp) hc hti hbo hep hst fun r hr' => (List.mem_cons.1 hr').elim (· ▸ le) (hr r) }

theorem foldl_StepOK {t : Task} {u : Updates} {now : Time} {R : Id → Prop} (hpos : 0 < now)
    (hR : ∀ x, u.epic = some x → t.isEpic = false → R x) : ∀ (evs : List Event) (k : Task), k.isEpic = t.isEpic →
    StepOK now R k → (∀ e ∈ evs, SetEv t u now e) → StepOK now R (evs.foldl stepTask k)
  | [], _, _, h, _ => h
  | e :: es, k, hk, h, he =>
    foldl_StepOK hpos hR es _ ((stepTask_isEpic k e).trans hk) (stepTask_StepOK hpos hR hk h (he e List.mem_cons_self))
      fun e' he' => he e' (List.mem_cons_of_mem _ he')

theorem AllInv.update {g : Graph} {id : Id} {t : Task} {f : Task → Task} (h : AllInv g)
    (hfind : g.find? id = some t) (hfid : ∀ k, (f k).id = k.id) (hfE : ∀ k, (f k).isEpic = k.isEpic)
    (hitem : ItemOK g (f t)) : AllInv (g.update id f) := by
  have hwf := h.ok.wf
  have keep := fun e he => update_lift (g := g) (id := id) hfid hfE (e := e) he
  refine h.mono (WF_update hfid hwf) keep (fun x hx => ?_) h.i07.acyclic fun e he => Or.inl he
  refine (mem_update_cases hwf hfind hx).imp (·.1) fun hx => ?_
  subst hx
  exact { hitem with epicR := fun hk => (hitem.epicR hk).mono keep }

theorem AllInv.updates {g : Graph} {id : Id} {t : Task} {u : Updates} {evs : List Event} {now : Time} {R : Id → Prop}
    (h : AllInv g) (hfind : g.find? id = some t) (hpos : 0 < now)
    (hle : t.updatedAt ≤ now) (hRsub : ∀ x, R x → EpicRef g x) (hRt : t.isEpic = false → R t.epicId)
    (hR : ∀ x, u.epic = some x → t.isEpic = false → R x)
    (hset : ∀ e ∈ evs, SetEv t u now e) (hinv : TaskInv (evs.foldl stepTask t)) :
    AllInv (g.update id fun k => evs.foldl stepTask k) := by
  have htm := List.mem_of_find?_eq_some hfind
  have hst : StepOK now R (evs.foldl stepTask t) :=
    foldl_StepOK hpos hR evs t rfl ⟨h.ok.tasks t htm, hle, h.epic0 t htm, hRt, (h.i14 t htm).1⟩ hset
  exact h.update hfind (foldl_stepTask_id evs) (foldl_stepTask_isEpic evs)
    ⟨hst.toTaskOK, hinv, hst.epic0, foldl_stepTask_id evs t ▸ h.ids t htm, hst.epicE, fun hE => hRsub _ (hst.epicR hE)⟩

theorem updateEvents_task {g : Graph} {t : Task} {r : SetReq} {agent : String} {po : PathOutcome} {now : Time}
    {evs : List Event} (h : updateEvents g t r agent po now = .ok evs) (hinv : TaskInv t) :
    (∀ x, r.u.epic = some x → t.isEpic = false → EpicRef g x) ∧ TaskInv (evs.foldl stepTask t) := by
  obtain ⟨evRes, hres, evSet, rfl, hb, hep, hR⟩ := updateEvents_ok _ h
  refine ⟨fun x hx hE => .of_find ((hR x hx hE).imp_right (·.2)), ?_⟩
  -- the result event, if there is one, leaves state and claimant alone
  have hsc : SameSC t (evRes.foldl stepTask t) := by
    split at hres
    · obtain ⟨e, he, rfl⟩ := hres
      obtain ⟨-, -, c, sh, mt, gi, -, rfl⟩ := resultEvent_ok _ he
      exact ⟨rfl, rfl, rfl⟩
    · subst hres; exact ⟨rfl, rfl, rfl⟩
  rw [List.foldl_append]
  exact (set_task_inv hsc hinv hep hb).1

end Ergo
