/-
  C19 completeness.  The rows of every view are the items it shows (`shown`) of one list (`tree`: the orphan tasks, then every epic followed
  by its children, siblings in Kahn order), in that order (`rows_eq_tree`).  `tree` is a permutation of the live items (`tree_perm`: nothing
  twice by unique ids, nobody lost by acyclic edges and C14).  Hence `rows_all`, `rows_active`, `rows_ready`.
-/
import ErgoProofs.Lemmas.RenderRowsKahn
namespace Ergo.Render
open Ergo Kahn

theorem topoSort_perm (g : Graph) (tasks : List Task) (hnd : (tasks.map (·.id)).Nodup) (hac : Acyclic g.deps) :
    (topoSort g tasks).Perm tasks := (topoSort_spec g tasks hnd hac).1

theorem topoSort_respects (g : Graph) (tasks : List Task) (hnd : (tasks.map (·.id)).Nodup) (hac : Acyclic g.deps)
    (a b : Task) (ha : a ∈ tasks) (hb : b ∈ tasks) (hdep : (a.id, b.id) ∈ g.deps) :
    ∃ pre post, topoSort g tasks = pre ++ a :: post ∧ b ∈ pre := by
  obtain ⟨hp, ho⟩ := topoSort_spec g tasks hnd hac
  obtain ⟨pre, post, heq⟩ := List.append_of_mem (hp.mem_iff.2 ha)
  exact ⟨pre, post, heq, ho pre a post heq b hb hdep⟩

def orphanList (g : Graph) : List Task := g.tasks.filter fun t => !t.isEpic && t.epicId == ""
def epicList (g : Graph) : List Task := g.tasks.filter (·.isEpic)

def tree (g : Graph) : List Task :=
  topoSort g (orphanList g) ++ (topoSort g (epicList g)).flatMap fun e => e :: childrenOf g e.id

def keepOrphan (g : Graph) : View → Task → Bool
  | .all, _ => true
  | .active, t => t.st != St.canceled && t.st != St.done
  | .ready, t => isReady g t

def keepKid (g : Graph) : View → Task → Bool
  | .all, _ => true
  | .active, k => k.st != St.canceled
  | .ready, k => isReady g k

/-- of an id, not a task: `shown` asks it of a child's `epicId` too -/
def keepEpic (g : Graph) (v : View) (e : Id) : Bool :=
  match v with
  | .all => true
  | .active => !epicHidden (childrenOf g e)
  | .ready => !(kidsShown g .ready (childrenOf g e)).isEmpty

def shown (g : Graph) (v : View) (x : Task) : Bool :=
  if x.isEpic then keepEpic g v x.id
  else if x.epicId == "" then keepOrphan g v x
  else keepKid g v x && keepEpic g v x.epicId

theorem shown_orphan {g : Graph} {v : View} {x : Task} (hne : x.isEpic = false) (he : x.epicId = "") :
    shown g v x = keepOrphan g v x := by
  simp [shown, hne, he]

theorem shown_kid {g : Graph} {v : View} {x : Task} (hne : x.isEpic = false) (he : x.epicId ≠ "") :
    shown g v x = (keepKid g v x && keepEpic g v x.epicId) := by
  simp [shown, hne, he]

theorem kidsShown_eq (g : Graph) (v : View) (kids : List Task) : kidsShown g v kids = kids.filter (keepKid g v) := by
  cases v
  · exact (List.filter_eq_self.2 fun _ _ => rfl).symm
  · rfl
  · rfl

theorem filter_ids_nodup {g : Graph} (hwf : WF g) (p : Task → Bool) : ((g.tasks.filter p).map (·.id)).Nodup :=
  hwf.nodup.sublist (List.filter_sublist.map _)

theorem mem_topoSort_filter {g : Graph} (hwf : WF g) (h7 : Inv07 g) (p : Task → Bool) (x : Task) :
    x ∈ topoSort g (g.tasks.filter p) ↔ x ∈ g.tasks ∧ p x = true := by
  rw [(topoSort_perm g _ (filter_ids_nodup hwf p) h7.acyclic).mem_iff, List.mem_filter]

theorem of_mem_topoSort_filter {g : Graph} {p : Task → Bool} {x : Task}
    (hx : x ∈ topoSort g (g.tasks.filter p)) : x ∈ g.tasks ∧ p x = true :=
  List.mem_filter.1 (topoSort_subset g _ hx)

theorem of_mem_orphans {g : Graph} {x : Task} (hx : x ∈ topoSort g (orphanList g)) :
    x ∈ g.tasks ∧ x.isEpic = false ∧ x.epicId = "" := by
  have := of_mem_topoSort_filter hx
  simpa using this

theorem of_mem_epics {g : Graph} {e : Task} (he : e ∈ topoSort g (epicList g)) : e ∈ g.tasks ∧ e.isEpic = true :=
  of_mem_topoSort_filter he

theorem of_mem_childrenOf {g : Graph} {e : Id} {k : Task} (hk : k ∈ childrenOf g e) :
    k ∈ g.tasks ∧ k.isEpic = false ∧ k.epicId ≠ "" ∧ k.epicId = e := by
  have := of_mem_topoSort_filter hk
  simpa [and_assoc] using this

theorem rows_eq_tree (g : Graph) (v : View) :
    (rows g v).map (fun r => (r.id, r.child)) =
      ((tree g).filter (shown g v)).map fun x => (x.id, !x.isEpic && x.epicId != "") := by
  have hrows : rows g v = ((topoSort g (orphanList g)).filter (keepOrphan g v)).map (fun t => ⟨t.id, false, false⟩) ++
      (topoSort g (epicList g)).flatMap fun e =>
        if !keepEpic g v e.id then [] else
          (⟨e.id, false, false⟩ : Row) :: (kidsShown g v (childrenOf g e.id)).zipIdx.map fun (k, i) =>
            { id := k.id, child := true, last := i + 1 == (kidsShown g v (childrenOf g e.id)).length } := by
    cases v
    · rw [show (topoSort g (orphanList g)).filter (keepOrphan g .all) = _ from List.filter_eq_self.2 fun _ _ => rfl]; rfl
    · rfl
    · rfl
  rw [hrows, tree, List.filter_append, List.filter_flatMap, List.map_append, List.map_append, List.map_map,
    List.map_flatMap, List.map_flatMap]
  congr 1
  · have : ∀ x ∈ topoSort g (orphanList g), shown g v x = keepOrphan g v x := fun x hx =>
      shown_orphan (of_mem_orphans hx).2.1 (of_mem_orphans hx).2.2
    rw [List.filter_congr this]
    refine List.map_congr_left fun x hx => ?_
    simp [(of_mem_orphans (List.mem_filter.1 hx).1).2]
  · refine flatMap_congr' fun e he => ?_
    have hE := (of_mem_epics he).2
    have hkids := fun k hk => (of_mem_childrenOf (g := g) (e := e.id) (k := k) hk).2
    have hsh : ∀ k ∈ childrenOf g e.id, shown g v k = (keepKid g v k && keepEpic g v e.id) := fun k hk => by
      obtain ⟨h1, h2, h3⟩ := hkids k hk
      rw [shown_kid h1 h2, h3]
    have hblock : (e :: childrenOf g e.id).filter (shown g v) =
        if keepEpic g v e.id then e :: (childrenOf g e.id).filter (keepKid g v) else [] := by
      rw [List.filter_cons, List.filter_congr hsh]
      simp only [shown, hE, if_true]
      cases keepEpic g v e.id <;> simp
    rw [hblock, kidsShown_eq]
    cases keepEpic g v e.id
    · rfl
    · simp only [Bool.not_true, Bool.false_eq_true, if_false, if_true, List.map_cons, hE, List.map_map]
      -- both sides are `(e.id, false)` followed by `(k.id, true)` for each child kept
      refine congrArg _ (.trans (?_ : _ = ((childrenOf g e.id).filter (keepKid g v)).map fun k => (k.id, true)) ?_)
      · -- the index `zipIdx` adds serves `last` only, which the projection to `(id, child)` drops
        show List.map ((fun k : Task => (k.id, true)) ∘ Prod.fst) _ = _
        rw [← List.map_map, List.zipIdx_map_fst]
      · refine List.map_congr_left fun k hk => ?_
        obtain ⟨h1, h2, -⟩ := hkids k (List.mem_filter.1 hk).1
        simp [h1, h2]

theorem tree_subset {g : Graph} {x : Task} (hx : x ∈ tree g) : x ∈ g.tasks := by
  rcases List.mem_append.1 hx with h | h
  · exact (of_mem_orphans h).1
  · obtain ⟨e, he, h⟩ := List.mem_flatMap.1 h
    rcases List.mem_cons.1 h with rfl | h
    · exact (of_mem_epics he).1
    · exact (of_mem_childrenOf h).1

theorem tree_nodup {g : Graph} (hwf : WF g) : (tree g).Nodup := by
  have hts := fun p => topoSort_nodup g _ (filter_ids_nodup hwf p)
  have hep := fun e he => of_mem_epics (g := g) (e := e) he
  rw [tree, List.nodup_append]
  refine ⟨hts _, List.pairwise_flatMap.2 ⟨fun e he => ?_, ?_⟩, ?_⟩
  · -- a block `e :: childrenOf g e.id` has no repeat: an epic is not its own child
    refine List.nodup_cons.2 ⟨fun h => ?_, hts _⟩
    exact Bool.noConfusion ((of_mem_childrenOf h).2.1.symm.trans (hep e he).2)
  · -- the blocks of two epics are disjoint: a child names one epic, and ids are unique
    refine (hts _).imp_of_mem fun {e₁ e₂} h1 h2 hne x hx y hy hxy => ?_
    subst hxy
    rcases List.mem_cons.1 hx with rfl | hx <;> rcases List.mem_cons.1 hy with h | hy
    · exact hne h
    · exact Bool.noConfusion ((of_mem_childrenOf hy).2.1.symm.trans (hep _ h1).2)
    · exact Bool.noConfusion ((of_mem_childrenOf hx).2.1.symm.trans (h ▸ (hep _ h2).2))
    · exact hne (eq_of_id_eq hwf.nodup (hep _ h1).1 (hep _ h2).1
        ((of_mem_childrenOf hx).2.2.2.symm.trans (of_mem_childrenOf hy).2.2.2))
  · -- no orphan is in a block
    intro a ha b hb hab
    subst hab
    have ho := (of_mem_orphans ha).2
    obtain ⟨e, he, hb⟩ := List.mem_flatMap.1 hb
    rcases List.mem_cons.1 hb with rfl | hb
    · exact Bool.noConfusion (ho.1.symm.trans (hep _ he).2)
    · exact (of_mem_childrenOf hb).2.2.1 ho.2

theorem mem_childrenOf {g : Graph} (hwf : WF g) (h7 : Inv07 g) {t : Task} (ht : t ∈ g.tasks) (hne : t.isEpic = false)
    (he : t.epicId ≠ "") : t ∈ childrenOf g t.epicId := by
  rw [childrenOf, mem_topoSort_filter hwf h7]
  simp [ht, hne, he]

theorem mem_tree {g : Graph} (hwf : WF g) (h7 : Inv07 g) (h14 : Inv14 g) {x : Task} : x ∈ tree g ↔ x ∈ g.tasks := by
  refine ⟨tree_subset, fun hx => ?_⟩
  rw [tree, List.mem_append, List.mem_flatMap]
  cases hE : x.isEpic
  · by_cases he : x.epicId = ""
    · exact .inl ((mem_topoSort_filter hwf h7 _ x).2 ⟨hx, by simp [hE, he]⟩)
    · rcases (h14 x hx).2 hE with h | ⟨e, hem, heid, hep⟩
      · exact absurd h he
      · exact .inr ⟨e, (mem_topoSort_filter hwf h7 _ e).2 ⟨hem, hep⟩,
          List.mem_cons_of_mem _ (heid ▸ mem_childrenOf hwf h7 hx hE he)⟩
  · exact .inr ⟨x, (mem_topoSort_filter hwf h7 _ x).2 ⟨hx, hE⟩, List.mem_cons_self⟩

theorem tree_perm {g : Graph} (hwf : WF g) (h7 : Inv07 g) (h14 : Inv14 g) : (tree g).Perm g.tasks :=
  (List.perm_ext_iff_of_nodup (tree_nodup hwf) (nodup_of_ids hwf.nodup)).2 fun _ => mem_tree hwf h7 h14

theorem rows_ids (g : Graph) (v : View) :
    (rows g v).map (·.id) = ((tree g).filter (shown g v)).map (·.id) := by
  have := congrArg (List.map Prod.fst) (rows_eq_tree g v)
  rwa [List.map_map, List.map_map] at this

theorem shown_all (g : Graph) (x : Task) : shown g .all x = true := by
  simp [shown, keepEpic, keepOrphan, keepKid]

theorem rows_ids_sublist (g : Graph) (v : View) : ((rows g v).map (·.id)).Sublist ((rows g .all).map (·.id)) := by
  rw [rows_ids, rows_ids, List.filter_eq_self.2 fun x _ => shown_all g x]
  exact List.filter_sublist.map _

theorem rows_ids_nodup {g : Graph} (hwf : WF g) (v : View) : ((rows g v).map (·.id)).Nodup := by
  rw [rows_ids g]
  refine List.Nodup.sublist (List.filter_sublist.map _) (List.pairwise_map.2 ?_)
  exact (tree_nodup hwf).imp_of_mem fun ha hb hne h => hne (eq_of_id_eq hwf.nodup (tree_subset ha) (tree_subset hb) h)

theorem mem_rows_ids {g : Graph} (hwf : WF g) (h7 : Inv07 g) (h14 : Inv14 g) (v : View) (t : Task) (ht : t ∈ g.tasks) :
    t.id ∈ (rows g v).map (·.id) ↔ shown g v t = true := by
  rw [rows_ids g, List.mem_map]
  constructor
  · rintro ⟨x, hx, hid⟩
    obtain ⟨hx, hs⟩ := List.mem_filter.1 hx
    rwa [← eq_of_id_eq hwf.nodup (tree_subset hx) ht hid]
  · exact fun hs => ⟨t, List.mem_filter.2 ⟨(tree_perm hwf h7 h14).mem_iff.2 ht, hs⟩, rfl⟩

theorem rows_all {g : Graph} (hwf : WF g) (h7 : Inv07 g) (h14 : Inv14 g) :
    ((rows g .all).map (·.id)).Perm (g.tasks.map (·.id)) := by
  rw [rows_ids g, List.filter_eq_self.2 fun x _ => shown_all g x]
  exact (tree_perm hwf h7 h14).map _

theorem rows_active {g : Graph} (hwf : WF g) (h7 : Inv07 g) (h14 : Inv14 g)
    (t : Task) (ht : t ∈ g.tasks) (hne : t.isEpic = false) (hst : t.st.closed = false) :
    ((rows g .active).map (·.id)).count t.id = 1 := by
  refine Nat.le_antisymm (List.nodup_iff_count.1 (rows_ids_nodup hwf .active) _)
    (List.count_pos_iff.2 ((mem_rows_ids hwf h7 h14 .active t ht).2 ?_))
  obtain ⟨hd, hc⟩ := not_or.1 (mt (St.closed_iff _).2 (Bool.eq_false_iff.1 hst))
  by_cases he : t.epicId = ""
  · simp [shown_orphan hne he, keepOrphan, hc, hd]
  · have : epicHidden (childrenOf g t.epicId) = false := by
      simp only [epicHidden, Bool.and_eq_false_iff, List.all_eq_false]
      exact .inr ⟨t, mem_childrenOf hwf h7 ht hne he, by simp [hst]⟩
    simp [shown_kid hne he, keepKid, hc, keepEpic, this]

theorem rows_ready {g : Graph} (hwf : WF g) (h7 : Inv07 g) (h14 : Inv14 g) (t : Task) (ht : t ∈ g.tasks)
    (hne : t.isEpic = false) : t.id ∈ (rows g .ready).map (·.id) ↔ isReady g t = true := by
  rw [mem_rows_ids hwf h7 h14 .ready t ht]
  by_cases he : t.epicId = ""
  · rw [shown_orphan hne he]; rfl
  · simp only [shown_kid hne he, keepKid, keepEpic, Bool.and_eq_true, Bool.not_eq_true', List.isEmpty_eq_false_iff,
      and_iff_left_iff_imp]
    exact fun hr => List.ne_nil_of_mem (List.mem_filter.2 ⟨mem_childrenOf hwf h7 ht hne he, hr⟩)

end Ergo.Render
