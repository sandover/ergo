/-
  C05, one item: under `TaskOK'` the rebuilt item is observably the original (`obs_rebuildX`), compacts to the same block
  (`compactTask_rebuildX`) and satisfies `TaskOK'` again (`taskOK_rebuildX`); with no assumption it still has the same `Task.core`
  (`rebuildX_core`).
-/
import ErgoProofs.Lemmas.CompactTask
namespace Ergo

/-- `TaskOK` plus the one condition it lacks: `compactTask` never emits an `epic` event for an epic, so an epic whose `lastEpic` is
    the only witness of its `updatedAt` would come back with a smaller `updated_at`.  (The CLI never writes such an event — `evEpic`
    fails with `epicEpic` — so there `lastEpic = 0`.)  Sufficient for the round trip, not necessary: a body or
    state event re-emitted without a stamp of its own takes `updatedAt`. -/
structure TaskOK' (t : Task) : Prop extends TaskOK t where
  epicTime : t.isEpic = true →
    t.lastEpic ≤ maxTimes ([t.createdAt, t.lastTitle, t.lastBody, t.lastState] ++ t.results.map (·.time))

theorem TaskOK'.of_lastEpic_zero {t : Task} (h : TaskOK t) (h0 : t.isEpic = true → t.lastEpic = 0) : TaskOK' t :=
  { h with epicTime := fun he => by rw [h0 he]; exact Nat.zero_le _ }

theorem pickTime_idem (c f : Time) : pickTime (pickTime c f) f = pickTime c f := by
  unfold pickTime; split <;> simp_all

theorem pickTime_of_ne {c f : Time} (h : c ≠ 0) : pickTime c f = c := by
  simp [pickTime, h]

theorem pickTime_ne_zero {c f : Time} (h : f ≠ 0) : pickTime c f ≠ 0 := by
  unfold pickTime
  split
  · simpa using ‹(c != 0) = true›
  · exact h

theorem optT_pick_le (c : Bool) {lX upd : Nat} (h : lX ≤ upd) : optT c (pickTime lX upd) ≤ upd := by
  unfold optT pickTime
  split
  · split
    · exact h
    · exact Nat.le_refl _
  · exact Nat.zero_le _

/-- an old stamp later than the creation time is not `0`, so its event is emitted and carries it (`p`: `true`, or "not an epic" for the
    epic event; `d`: the value differs from the created one) -/
theorem le_optT_pick (p d : Bool) (lX cAt upd : Nat) (hp : p = true) :
    lX ≤ cAt ∨ lX ≤ optT (p && (d || (lX != 0 && decide (lX > cAt)))) (pickTime lX upd) := by
  subst hp
  by_cases hg : lX > cAt
  · have h0 : lX ≠ 0 := Nat.ne_of_gt (Nat.zero_lt_of_lt hg)
    exact .inr (by simp [optT, pickTime, h0, hg])
  · exact .inl (Nat.le_of_not_gt hg)

theorem updated_rebuildX (t : Task) : (rebuildX t).updatedAt =
    maxTimes ([t.createdAt, (rebuildX t).lastTitle, (rebuildX t).lastBody, (rebuildX t).lastEpic, (rebuildX t).lastState]
      ++ t.results.map (·.time)) := by
  -- `rebuildX` defines `updatedAt` as `foldl maxTime` from `createdAt` over these stamps, then the result times reversed: turn the
  -- right side into that fold (`maxTimes` does not see the order) and compare
  rw [maxTimes_append, ← maxTimes_reverse (t.results.map _), ← maxTimes_append, List.cons_append, ← foldl_maxTime, List.foldl_append,
    ← List.map_reverse]
  rfl

/-- the `updated` clause of `TaskOK`, read stamp by stamp -/
theorem stamps_le_iff {a b c d e n : Time} {l : List Time} :
    maxTimes ([a, b, c, d, e] ++ l) ≤ n ↔ a ≤ n ∧ b ≤ n ∧ c ≤ n ∧ d ≤ n ∧ e ≤ n ∧ ∀ x ∈ l, x ≤ n := by
  simp only [maxTimes_le_iff, List.cons_append, List.nil_append, List.forall_mem_cons]

/-- each new stamp is `0`, an old one or `updatedAt` itself; each old one is below the creation time or re-emitted (an epic's
    `lastEpic`, never re-emitted, is covered by `epicTime`) -/
theorem rebuildX_updatedAt (t : Task) (h : TaskOK' t) : (rebuildX t).updatedAt = t.updatedAt := by
  obtain ⟨uC, uT, uB, uE, uS, uR⟩ := stamps_le_iff.1 (Nat.le_of_eq h.updated.symm)
  obtain ⟨nC, nT, nB, nE, nS, nR⟩ := stamps_le_iff.1 (Nat.le_of_eq (updated_rebuildX t).symm)
  have up : ∀ {x o : Time}, x ≤ t.createdAt ∨ x ≤ o → o ≤ (rebuildX t).updatedAt → x ≤ (rebuildX t).updatedAt :=
    fun hx ho => hx.elim (Nat.le_trans · nC) (Nat.le_trans · ho)
  have oT := up (le_optT_pick true _ t.lastTitle t.createdAt t.updatedAt rfl) nT
  have oB := up (le_optT_pick true _ t.lastBody t.createdAt t.updatedAt rfl) nB
  have oS := up (le_optT_pick true _ t.lastState t.createdAt t.updatedAt rfl) nS
  have oE : t.lastEpic ≤ (rebuildX t).updatedAt := by
    cases hep : t.isEpic
    · exact up (le_optT_pick (!t.isEpic) _ t.lastEpic t.createdAt t.updatedAt (by rw [hep]; rfl)) nE
    · refine Nat.le_trans (h.epicTime hep) ((maxTimes_le_iff _ _).2 ?_)
      simp only [List.cons_append, List.nil_append, List.forall_mem_cons]
      exact ⟨nC, oT, oB, oS, nR⟩
  apply Nat.le_antisymm
  · rw [updated_rebuildX]
    exact stamps_le_iff.2 ⟨uC, optT_pick_le _ uT, optT_pick_le _ uB, optT_pick_le _ uE, optT_pick_le _ uS, uR⟩
  · exact h.updated ▸ stamps_le_iff.2 ⟨nC, oT, oB, oE, oS, nR⟩

theorem emitEpic_of_isEpic {t : Task} (h : t.isEpic = true) : emitEpic t = false := by simp [emitEpic, h]

theorem rebuildX_epicId_of_task {t : Task} (h : t.isEpic = false) : (rebuildX t).epicId = t.epicId :=
  ite_eq_left_iff.2 fun he => eq_of_not_emit (by rw [emitEpic, h] at he; exact he)

theorem rebuildX_epicId_of_epic {t : Task} (h : t.isEpic = true) : (rebuildX t).epicId = t.cEpic :=
  if_neg (by simp [emitEpic_of_isEpic h])

theorem rebuildX_lastEpic_of_isEpic {t : Task} (h : t.isEpic = true) : (rebuildX t).lastEpic = 0 := by
  simp [rebuildX, emitEpic_of_isEpic h, optT]

theorem rebuildX_epicId (t : Task) (h : TaskOK' t) : (rebuildX t).epicId = t.epicId := by
  cases hep : t.isEpic
  · exact rebuildX_epicId_of_task hep
  · exact (rebuildX_epicId_of_epic hep).trans (h.epicFixed hep).symm

/-- the claimant survives for every task: the state is replayed before the claim -/
theorem rebuildX_claimedBy (t : Task) : (rebuildX t).claimedBy = t.claimedBy := rfl

theorem rebuildX_lastClaim (t : Task) (h : TaskOK' t) (hc : t.claimedBy ≠ "") : (rebuildX t).lastClaim = t.lastClaim := by
  have : emitClaim t = true := by simpa [emitClaim] using hc
  simp only [rebuildX, optT, this, if_true]
  exact pickTime_of_ne (h.claimTime hc)

theorem obs_rebuildX (t : Task) (h : TaskOK' t) : obsTask (rebuildX t) = obsTask t := by
  have hcl : (if t.claimedBy == "" then 0 else (rebuildX t).lastClaim) = if t.claimedBy == "" then 0 else t.lastClaim :=
    ite_congr rfl (fun _ => rfl) fun hc => rebuildX_lastClaim t h (mt beq_iff_eq.2 hc)
  unfold obsTask
  rw [rebuildX_epicId t h, rebuildX_updatedAt t h, ← hcl]
  rfl

theorem cOf_idem {α : Type} [DecidableEq α] (a b z : α) :
    (if (if a != z then a else b) != z then (if a != z then a else b) else b) = if a != z then a else b := by
  by_cases h : a = z <;> by_cases h' : b = z <;> simp [h, h']

theorem cStOf_rebuildX (t : Task) : cStOf (rebuildX t) = cStOf t := cOf_idem _ _ _
theorem cTitleOf_rebuildX (t : Task) : cTitleOf (rebuildX t) = cTitleOf t := cOf_idem _ _ _
theorem cBodyOf_rebuildX (t : Task) : cBodyOf (rebuildX t) = cBodyOf t := cOf_idem _ _ _

/-- the flag of an optional event (`p`: `true`, or "not an epic" for the epic event) is the same with the stamp the event leaves -/
theorem emit_idem (p d : Bool) (lX cAt upd : Nat) :
    (p && (d || (optT (p && (d || (lX != 0 && decide (lX > cAt)))) (pickTime lX upd) != 0 &&
      decide (optT (p && (d || (lX != 0 && decide (lX > cAt)))) (pickTime lX upd) > cAt)))) =
      (p && (d || (lX != 0 && decide (lX > cAt)))) := by
  cases p
  · rfl
  · unfold optT pickTime
    by_cases h0 : lX = 0 <;> by_cases hd : d = true <;> by_cases hg : lX > cAt <;> simp [h0, hd, hg]

theorem emitTitle_rebuildX (t : Task) : emitTitle (rebuildX t) = emitTitle t := by
  unfold emitTitle; rw [cTitleOf_rebuildX]; exact emit_idem true _ _ _ _
theorem emitBody_rebuildX (t : Task) : emitBody (rebuildX t) = emitBody t := by
  unfold emitBody; rw [cBodyOf_rebuildX]; exact emit_idem true _ _ _ _
theorem emitState_rebuildX (t : Task) : emitState (rebuildX t) = emitState t := by
  unfold emitState; rw [cStOf_rebuildX]; exact emit_idem true _ _ _ _
theorem emitEpic_rebuildX (t : Task) : emitEpic (rebuildX t) = emitEpic t := by
  cases hep : t.isEpic
  · unfold emitEpic; rw [rebuildX_epicId_of_task hep]; exact emit_idem _ _ _ _ _
  · rw [emitEpic_of_isEpic hep, emitEpic_of_isEpic (t := rebuildX t) hep]

theorem emitClaim_rebuildX (t : Task) : emitClaim (rebuildX t) = emitClaim t := rfl

/-- re-emitted from the rebuilt item, an optional event carries the stamp it carried -/
theorem optEv_idem (c : Bool) (ev : Option Time → Event) (l u : Time) :
    (if c then [ev (some (pickTime (optT c (pickTime l u)) u))] else []) = if c then [ev (some (pickTime l u))] else [] := by
  cases c <;> simp [optT, pickTime_idem]

theorem updEvents_rebuildX (t : Task) (h : TaskOK' t) : updEvents (rebuildX t) = updEvents t := by
  unfold updEvents
  rw [emitTitle_rebuildX, emitBody_rebuildX, emitEpic_rebuildX, emitClaim_rebuildX, emitState_rebuildX, rebuildX_updatedAt t h,
    rebuildX_epicId t h]
  simp only [rebuildX, optEv_idem]

theorem compactTask_rebuildX (t : Task) (h : TaskOK' t) : compactTask (rebuildX t) = compactTask t := by
  rw [compactTask_eq, compactTask_eq, updEvents_rebuildX t h, cStOf_rebuildX, cTitleOf_rebuildX, cBodyOf_rebuildX]
  rfl

theorem taskOK_rebuildX (t : Task) (h : TaskOK' t) : TaskOK' (rebuildX t) := by
  refine { updated := updated_rebuildX t, claimTime := ?_, epicFixed := rebuildX_epicId_of_epic (t := t), cStSet := ?_, titled := h.titled,
           titleKept := ?_, created_pos := h.created_pos, epicTime := ?_ }
  · intro hc; rw [rebuildX_lastClaim t h hc]; exact h.claimTime hc
  · show cStOf t ≠ _
    simp [cStOf, h.cStSet]
  · intro h0
    have hu : t.updatedAt ≠ 0 := fun hu => h.created_pos (Nat.le_zero.1 (hu ▸ h.updated ▸ le_maxTimes (by simp)))
    -- the title event was not re-emitted: its stamp `pickTime lastTitle updatedAt` would not be 0
    have hne : ¬ emitTitle t = true := fun he => pickTime_ne_zero hu (by simpa [rebuildX, optT, he] using h0)
    show t.title = if cTitleOf t != "" then cTitleOf t else t.title
    rw [eq_of_not_emit (c := cTitleOf t) hne]
    exact (ite_self _).symm
  · intro he; rw [rebuildX_lastEpic_of_isEpic (t := t) he]; exact Nat.zero_le _

/-- what compaction keeps of every item with no invariant assumed (DESIGN §6); the uuid too, but it is not in the tuple -/
def Task.core (t : Task) : Id × Bool × St × String × String × String × List ResultRec × Time × Id :=
  (t.id, t.isEpic, t.st, t.claimedBy, t.title, t.body, t.results, t.createdAt, if t.isEpic then "" else t.epicId)

theorem rebuildX_core (t : Task) : (rebuildX t).core = t.core := by
  have he : (if (rebuildX t).isEpic then "" else (rebuildX t).epicId) = if t.isEpic then "" else t.epicId := by
    show (if t.isEpic then "" else (rebuildX t).epicId) = _
    cases hep : t.isEpic
    · exact rebuildX_epicId_of_task hep
    · rfl
  unfold Task.core
  rw [he]
  rfl

end Ergo
