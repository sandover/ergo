/-
  The lock file as a name (ErgoModel.LockFile): every descriptor is on the one inode the name ever had, so the flock on it is
  the lock of ErgoModel.Proc, also when several processes create a missing lock file at once.
-/
import ErgoModel.LockFile
namespace Ergo.LockFile

/-- every open descriptor is on the inode the name has; the flock table names exactly the processes past `flock` -/
structure Inv (s : LSys) : Prop where
  onName : ∀ (p i : Nat), (s.procs[p]? = some (Ph.opened i) ∨ s.procs[p]? = some (Ph.locked i)) → s.name = some i
  held   : ∀ (i p : Nat), s.holder i = some p ↔ s.procs[p]? = some (Ph.locked i)

theorem inv_init (name : Option Nat) (fresh n : Nat) : Inv (LSys.init name fresh n) := by
  have h0 : ∀ p (ph : Ph), (LSys.init name fresh n).procs[p]? = some ph → ph = .start := fun p ph h =>
    List.eq_of_mem_replicate (List.mem_of_getElem? h)
  constructor
  · rintro p i (h | h) <;> cases h0 _ _ h
  · exact fun i p => ⟨nofun, fun h => nomatch h0 _ _ h⟩

/-! Every step `s → t` takes one process `p` from `old` to `new` and leaves the others alone: `t.procs = s.procs.set p new`, by `rfl`. -/

section
variable {s t : LSys} {p : Nat} {old new : Ph} (hold : s.procs[p]? = some old) (ht : t.procs = s.procs.set p new)
include hold ht

theorem procs_self : t.procs[p]? = some new := by
  rw [ht, List.getElem?_set_self (List.getElem?_eq_some_iff.mp hold).1]

omit hold in
theorem procs_other {q : Nat} (hq : q ≠ p) : t.procs[q]? = s.procs[q]? := by
  rw [ht, List.getElem?_set_ne (Ne.symm hq)]

theorem inv_set (hI : Inv s)
    (hname : ∀ i, s.name = some i → t.name = some i)
    (hnew : ∀ i, new = .opened i ∨ new = .locked i → t.name = some i)
    (hheld : ∀ i q, t.holder i = some q ↔ if q = p then new = .locked i else s.holder i = some q) : Inv t := by
  constructor
  · intro q i h
    by_cases hq : q = p
    · subst hq
      rw [procs_self hold ht] at h
      exact hnew i (h.imp Option.some.inj Option.some.inj)
    · rw [procs_other ht hq] at h
      exact hname i (hI.onName q i h)
  · intro i q
    rw [hheld]
    by_cases hq : q = p
    · subst hq
      rw [if_pos rfl, procs_self hold ht]
      exact ⟨congrArg some, Option.some.inj⟩
    · rw [if_neg hq, procs_other ht hq]
      exact hI.held i q

/-- the conclusion of `C02_lock_steps_follow_the_traced_automaton` for one such step -/
theorem moves (hk : new = Ph.crashed ∨ ∃ (k k' : Kind) (c : LCall), old.kind = some k ∧ new.kind = some k' ∧ next k c = some k') :
    ∃ (p : Nat) (ph ph' : Ph), s.procs[p]? = some ph ∧ t.procs[p]? = some ph' ∧ (∀ q : Nat, q ≠ p → t.procs[q]? = s.procs[q]?) ∧
      (ph' = Ph.crashed ∨ ∃ (k k' : Kind) (c : LCall), ph.kind = some k ∧ ph'.kind = some k' ∧ next k c = some k') :=
  ⟨p, old, new, hold, procs_self hold ht, fun _ hq => procs_other ht hq, hk⟩

end

theorem holds_iff {s : LSys} (hI : Inv s) {p : Nat} {old : Ph} (hold : s.procs[p]? = some old) (i : Nat) :
    s.holder i = some p ↔ old = .locked i := by
  rw [hI.held, hold]
  exact ⟨Option.some.inj, congrArg some⟩

/-! `inv_set`'s premise `hheld`, for the three things a step does to the flock table: nothing (`held_same`), `p` takes the flock on `i`
    (`held_enter`), `p` gives it up (`held_leave`); `new_on` is its premise `hnew` when `new` is on the name's inode. -/

theorem held_same {s : LSys} (hI : Inv s) {p : Nat} {old new : Ph} (hold : s.procs[p]? = some old)
    (ho : ∀ i, old ≠ .locked i) (hn : ∀ i, new ≠ .locked i) :
    ∀ i q, s.holder i = some q ↔ if q = p then new = .locked i else s.holder i = some q := by
  intro i q
  by_cases hq : q = p
  · subst hq
    rw [if_pos rfl, holds_iff hI hold]
    exact ⟨fun h => absurd h (ho i), fun h => absurd h (hn i)⟩
  · rw [if_neg hq]

theorem held_enter {s : LSys} (hI : Inv s) {p : Nat} {old : Ph} (hold : s.procs[p]? = some old) (ho : ∀ j, old ≠ .locked j)
    {i : Nat} (hfree : s.holder i = none) :
    ∀ j q, setHolder s.holder i (some p) j = some q ↔ if q = p then Ph.locked i = .locked j else s.holder j = some q := by
  intro j q
  show (if j = i then some p else s.holder j) = some q ↔ _
  by_cases hq : q = p
  · subst hq
    rw [if_pos rfl]
    by_cases hj : j = i
    · subst hj; rw [if_pos rfl]; exact ⟨fun _ => rfl, fun _ => rfl⟩
    · -- elsewhere it held nothing
      rw [if_neg hj, holds_iff hI hold]
      exact ⟨fun h => absurd h (ho j), fun h => absurd (Ph.locked.inj h).symm hj⟩
  · rw [if_neg hq]
    by_cases hj : j = i
    · -- on `i` there was nobody, and now there is `p`, not `q`
      subst hj; rw [if_pos rfl, hfree]
      exact ⟨fun h => absurd (Option.some.inj h).symm hq, nofun⟩
    · rw [if_neg hj]

theorem held_leave {s : LSys} (hI : Inv s) {p i : Nat} (hold : s.procs[p]? = some (.locked i)) {new : Ph} (hn : ∀ j, new ≠ .locked j) :
    ∀ j q, setHolder s.holder i none j = some q ↔ if q = p then new = .locked j else s.holder j = some q := by
  intro j q
  show (if j = i then none else s.holder j) = some q ↔ _
  by_cases hq : q = p
  · subst hq
    rw [if_pos rfl]
    by_cases hj : j = i
    · rw [if_pos hj]; exact ⟨nofun, fun h => absurd h (hn j)⟩
    · -- it held the flock on `i` only
      rw [if_neg hj, holds_iff hI hold]
      exact ⟨fun h => absurd (Ph.locked.inj h).symm hj, fun h => absurd h (hn j)⟩
  · rw [if_neg hq]
    by_cases hj : j = i
    · -- the flock on `i` was `p`'s, not `q`'s
      subst hj; rw [if_pos rfl, (holds_iff hI hold j).mpr rfl]
      exact ⟨nofun, fun h => absurd (Option.some.inj h).symm hq⟩
    · rw [if_neg hj]

theorem new_on {n : Option Nat} {i : Nat} (hn : n = some i) {new : Ph} (h : new = .opened i ∨ new = .locked i) :
    ∀ j, new = .opened j ∨ new = .locked j → n = some j := by
  intro j hj
  rcases h with rfl | rfl <;> rcases hj with hj | hj <;> cases hj <;> exact hn

theorem name_kept {s t : LSys} (h : LStep s t) {i : Nat} (hn : s.name = some i) : t.name = some i := by
  cases h with
  | create p hp => rw [hn]; exact hn    -- `O_CREAT` on an existing file
  | crash p ph hp hnd hnc => split <;> exact hn
  | _ => exact hn

theorem inv_step {s t : LSys} (hI : Inv s) (h : LStep s t) : Inv t := by
  have keep : ∀ i, s.name = some i → t.name = some i := fun _ => name_kept h
  cases h with
  | open1Ok p i hp hn | open2Ok p i hp hn => exact inv_set hp rfl hI keep (new_on hn (.inl rfl)) (held_same hI hp nofun nofun)
  | open1Miss p hp hn | statHit p i hp hn | statMiss p hp hn | open2Miss p hp hn | flockBusy p i q hp hq =>
    exact inv_set hp rfl hI keep nofun (held_same hI hp nofun nofun)
  | create p hp =>
    -- `keep` goes into the goal so that `split` resolves the `match` in the target state there as well
    revert keep
    split <;> exact fun keep => inv_set hp rfl hI keep nofun (held_same hI hp nofun nofun)
  | flockOk p i hp hfree =>
    exact inv_set hp rfl hI keep (new_on (hI.onName p i (.inl hp)) (.inr rfl)) (held_enter hI hp nofun hfree)
  | unlock p i hp => exact inv_set hp rfl hI keep nofun (held_leave hI hp nofun)
  | crash p ph hp hnd hnc =>
    revert keep
    split
    next i => exact fun keep => inv_set hp rfl hI keep nofun (held_leave hI hp nofun)
    next hph => exact fun keep => inv_set hp rfl hI keep nofun (held_same hI hp hph nofun)

theorem inv_reachable {a s : LSys} (hI : Inv a) (h : LReachable a s) : Inv s := by
  induction h with
  | refl => exact hI
  | tail _ st ih => exact inv_step ih st

theorem inside_holds {s : LSys} (hI : Inv s) {i : Nat} (hn : s.name = some i) {q : Nat} (hq : s.inside q) : s.holder i = some q := by
  obtain ⟨j, hq⟩ := hq
  cases Option.some.inj ((hI.onName q j (.inr hq)).symm.trans hn)
  exact (hI.held i q).mpr hq

theorem exclusive {s : LSys} (hI : Inv s) {p q : Nat} (hp : s.inside p) (hq : s.inside q) : p = q := by
  obtain ⟨i, hpi⟩ := hp
  have hn := hI.onName p i (.inr hpi)
  exact Option.some.inj ((inside_holds hI hn ⟨i, hpi⟩).symm.trans (inside_holds hI hn hq))

/-- the guards of `Proc.Step.lockOk` and `lockBusy` -/
theorem flock_free_iff {s : LSys} (hI : Inv s) {p i : Nat} (hp : s.procs[p]? = some (.opened i)) :
    s.holder i = none ↔ ∀ q, ¬ s.inside q := by
  constructor
  · intro hfree q hq
    cases hfree.symm.trans (inside_holds hI (hI.onName p i (.inl hp)) hq)
  · intro hno
    cases hh : s.holder i with
    | none => rfl
    | some q => exact absurd ⟨i, (hI.held i q).mp hh⟩ (hno q)

theorem busy_means_somebody_inside {s : LSys} (hI : Inv s) {p i q : Nat} (_hp : s.procs[p]? = some (.opened i)) (hq : s.holder i = some q) :
    s.inside q := ⟨i, (hI.held i q).mp hq⟩

/-! runs of the seeded variant `LStepRename` (create by rename), for `C02_create_by_rename_would_break_exclusion` -/

inductive RReachable : LSys → LSys → Prop where
  | refl (s) : RReachable s s
  | tail {a b c} : RReachable a b → LStepRename b c → RReachable a c

end Ergo.LockFile
