/-
  The JSON scanner of ErgoModel.Codec is stable under extension (`stable`): what `scanStr`, `skipValue`, `members`, `elems` accept and
  consume, they accept and consume in the same way when more bytes follow (a number: provided something already followed it).
  This is what makes a proper prefix of a complete line unparseable (CodecThm.prefix_bad).
-/
import ErgoModel.Codec
open Ergo Ergo.Storage

namespace Ergo.Codec

theorem scanStr_append (s : Bytes) (raw r x : Bytes) (h : scanStr s = some (raw, r)) : scanStr (s ++ x) = some (raw, r ++ x) := by
  revert h
  fun_induction scanStr s generalizing raw r with
  | case2 => rintro ⟨⟩; rw [List.cons_append, scanStr.eq_def]; simp   -- the closing quote
  | case4 _ _ _ _ _ _ _ ih | case7 _ _ _ _ _ ih | case10 _ _ _ _ _ ih =>   -- `\uXXXX`, a two-byte escape, an ordinary byte
    intro h
    obtain ⟨p, hp, ⟨⟩⟩ := Option.map_eq_some_iff.1 h
    rw [List.cons_append, scanStr.eq_def]; simp [*, ih _ _ hp]
  | _ => nofun

theorem skipWs_append (s x : Bytes) (h : skipWs s ≠ []) : skipWs (s ++ x) = skipWs s ++ x := by
  fun_induction skipWs s with
  | case1 => exact absurd rfl h
  | case2 b r hb ih => rw [← ih h, List.cons_append, skipWs, if_pos hb]
  | case3 b r hb => rw [List.cons_append, skipWs, if_neg hb]

theorem skipWs_append_cons {s : Bytes} {c : UInt8} {r : Bytes} (x : Bytes) (h : skipWs s = c :: r) : skipWs (s ++ x) = c :: (r ++ x) := by
  rw [skipWs_append _ _ (by simp [h]), h]; rfl

theorem skipDigits_append (s x : Bytes) (h : skipDigits s ≠ []) : skipDigits (s ++ x) = skipDigits s ++ x := by
  fun_induction skipDigits s with
  | case1 => exact absurd rfl h
  | case2 b r hb ih => rw [← ih h, List.cons_append, skipDigits, if_pos hb]
  | case3 b r hb => rw [List.cons_append, skipDigits, if_neg hb]

theorem lit_append (cs s r x : Bytes) (h : lit cs s = some r) : lit cs (s ++ x) = some (r ++ x) := by
  revert h
  fun_induction lit cs s with
  | case1 => rintro ⟨⟩; rw [lit]
  | case3 _ _ _ ih => intro h; rw [List.cons_append, lit, if_pos rfl, ih h]
  | _ => nofun

-- here and in `scanNumber_append`: `fun_cases` keeps the `let` that peels the sign opaque in every case, so peel it first (`hs`), then split
theorem scanExp_append (s r x : Bytes) (h : scanExp s = some r) (hr : r ≠ []) : scanExp (s ++ x) = some (r ++ x) := by
  unfold scanExp at h ⊢
  cases s with
  | nil => simp at h; exact absurd h hr
  | cons e r' =>
    simp only [List.cons_append] at h ⊢
    by_cases he : e = 101 ∨ e = 69
    · simp only [he, if_true] at h ⊢
      cases r' with
      | nil => simp at h
      | cons s0 y =>
        have hs : (if s0 = 43 ∨ s0 = 45 then y ++ x else s0 :: (y ++ x)) = (if s0 = 43 ∨ s0 = 45 then y else s0 :: y) ++ x := by
          split <;> rfl
        simp only [List.cons_append, hs] at h ⊢
        generalize (if s0 = 43 ∨ s0 = 45 then y else s0 :: y) = s1 at h ⊢
        cases s1 with
        | nil => simp at h
        | cons d z =>
          simp only [List.cons_append] at h ⊢
          by_cases hd : isDigit d = true
          · simp only [hd, if_true, Option.some.injEq] at h ⊢
            subst h; exact skipDigits_append _ _ hr
          · simp [hd] at h
    · simp only [he, if_false, Option.some.injEq] at h ⊢
      subst h; rfl

theorem scanFrac_append (s r x : Bytes) (h : scanFrac s = some r) (hr : r ≠ []) : scanFrac (s ++ x) = some (r ++ x) := by
  revert h
  fun_cases scanFrac s with
  | case1 => rintro ⟨⟩; exact absurd rfl hr
  | case3 d y hd =>   -- `.` and a digit
    intro h
    have hne : skipDigits y ≠ [] := by intro h0; rw [h0] at h; cases h; exact hr rfl
    simpa [scanFrac, hd, skipDigits_append _ _ hne] using scanExp_append _ _ x h hr
  | case5 p r' hp => intro h; simpa [scanFrac, hp] using scanExp_append _ _ x h hr   -- no fraction
  | _ => nofun

theorem scanNumber_append (s r x : Bytes) (h : scanNumber s = some r) (hr : r ≠ []) : scanNumber (s ++ x) = some (r ++ x) := by
  unfold scanNumber at h ⊢
  cases s with
  | nil => simp at h
  | cons m t =>
    have hs : (if m = 45 then t ++ x else m :: (t ++ x)) = (if m = 45 then t else m :: t) ++ x := by split <;> rfl
    simp only [List.cons_append, hs] at h ⊢
    generalize (if m = 45 then t else m :: t) = s1 at h ⊢
    cases s1 with
    | nil => simp at h
    | cons d u =>
      simp only [List.cons_append] at h ⊢
      by_cases h48 : d = 48
      · simp only [h48, if_true] at h ⊢; exact scanFrac_append _ _ _ h hr
      · simp only [h48, if_false] at h ⊢
        by_cases h19 : 49 ≤ d ∧ d ≤ 57
        · simp only [h19, and_self, if_true] at h ⊢
          have hne : skipDigits u ≠ [] := by intro h0; rw [h0] at h; cases h; exact hr rfl
          rw [skipDigits_append _ _ hne]
          exact scanFrac_append _ _ _ h hr
        · simp [h19] at h

/-- the first byte starts a value that carries its own end mark: everything but a number -/
def Delim : Bytes → Prop
  | [] => False
  | b :: _ => b = 123 ∨ b = 91 ∨ b = 34 ∨ b = 116 ∨ b = 102 ∨ b = 110

/-- `members` records a value's text as what the scan consumed, `take (length − length of the rest)`: the same when `x` follows -/
theorem take_consumed (v r3 x : Bytes) :
    (v ++ x).take ((v ++ x).length - (r3 ++ x).length) = v.take (v.length - r3.length) := by
  rw [List.length_append, List.length_append, Nat.add_sub_add_right, List.take_append_of_le_length (Nat.sub_le _ _)]

/-- a value and the separator after it scan the same when more follows; the value's text stays -/
theorem value_sep_append {f d : Nat} {t r3 r4 : Bytes} {e : UInt8} (x : Bytes)
    (ihV : ∀ d s r x, skipValue f d s = some r → (r ≠ [] ∨ Delim s) → skipValue f d (s ++ x) = some (r ++ x))
    (hv : skipValue f d (skipWs t) = some r3) (hw : skipWs r3 = e :: r4) :
    skipValue f d (skipWs (t ++ x)) = some (r3 ++ x) ∧ skipWs (r3 ++ x) = e :: (r4 ++ x) ∧
    (skipWs (t ++ x)).take ((skipWs (t ++ x)).length - (r3 ++ x).length) = (skipWs t).take ((skipWs t).length - r3.length) := by
  have ht : skipWs t ≠ [] := by intro h0; rw [h0] at hv; cases f <;> cases hv
  rw [skipWs_append t x ht]
  exact ⟨ihV _ _ _ x hv (.inl (by rintro rfl; cases hw)), skipWs_append_cons x hw, take_consumed _ _ _⟩

theorem stable (f : Nat) :
    (∀ d s r x, skipValue f d s = some r → (r ≠ [] ∨ Delim s) → skipValue f d (s ++ x) = some (r ++ x)) ∧
    (∀ d s ms r x, members f d s = some (ms, r) → members f d (s ++ x) = some (ms, r ++ x)) ∧
    (∀ d s r x, elems f d s = some r → elems f d (s ++ x) = some (r ++ x)) := by
  induction f using Nat.strongRecOn with | _ f ih => ?_
  -- one case for each arm that can succeed: the scan of `s ++ x` takes the same arm, since every test on the way looks at bytes of `s`
  refine ⟨fun d s r x h hd => ?_, fun d s ms r x h => ?_, fun d s r x h => ?_⟩
  · revert h
    fun_cases skipValue f d s with
    | case5 f t d r' hw => rintro ⟨⟩; simp [skipValue, skipWs_append_cons x hw]   -- `{}`
    | case6 f t d c r' hw hc =>   -- `{` and members
      intro h
      obtain ⟨⟨ms, r0⟩, hm, rfl⟩ := Option.map_eq_some_iff.1 h
      simpa [skipValue, skipWs_append_cons x hw, hc] using ⟨ms, (ih f f.lt_succ_self).2.1 _ _ _ _ x hm⟩
    | case9 f t d r' _ hw => rintro ⟨⟩; simp [skipValue, skipWs_append_cons x hw]   -- `[]`
    | case10 f t d c r' hw hc =>   -- `[` and elements
      intro h
      simpa [skipValue, skipWs_append_cons x hw, hc] using (ih f f.lt_succ_self).2.2 _ _ _ x h
    | case11 =>   -- a string
      intro h
      obtain ⟨⟨raw, r0⟩, hs, rfl⟩ := Option.map_eq_some_iff.1 h
      simp [skipValue, scanStr_append _ _ _ x hs]
    | case12 | case13 | case14 => intro h; simp [skipValue, lit_append _ _ _ x h]   -- `true`, `false`, `null`
    | case15 _ _ b t =>   -- a number: nothing but `hd` says that it has ended
      intro h
      have hr : r ≠ [] := hd.resolve_right (by simp [Delim, *])
      simpa [skipValue, *] using scanNumber_append (b :: t) r x h hr
    | _ => nofun
  · revert h
    fun_cases members f d s with
    | case9 f _ _ q r0 hw hq k r1 hs c r2 hw1 hc r3 hv raw r4 hw3 =>   -- `"k" : v ,` and more members
      intro h
      obtain ⟨⟨ms', r'⟩, hm, ⟨⟩⟩ := Option.map_eq_some_iff.1 h
      obtain ⟨ihV, ihM, -⟩ := ih f f.lt_succ_self
      obtain ⟨hv', hw3', hraw⟩ := value_sep_append x ihV hv hw3
      simp only [members, skipWs_append_cons x hw, hq, scanStr_append _ _ _ x hs, skipWs_append_cons x hw1, hc, hv', hw3', hraw,
        ihM _ _ _ _ x hm, if_true, if_false, Option.map_some, raw]
    | case10 f _ _ q r0 hw hq k r1 hs c r2 hw1 hc r3 hv raw r4 hw3 he =>   -- `"k" : v }`
      rintro ⟨⟩
      obtain ⟨hv', hw3', hraw⟩ := value_sep_append x (ih f f.lt_succ_self).1 hv hw3
      simp only [members, skipWs_append_cons x hw, hq, scanStr_append _ _ _ x hs, skipWs_append_cons x hw1, hc, hv', hw3', hraw,
        he, if_true, if_false, raw]
    | _ => nofun
  · revert h
    fun_cases elems f d s with
    | case4 f _ _ r3 hv r4 hw3 =>   -- `v ,` and more elements
      intro h
      obtain ⟨ihV, -, ihE⟩ := ih f f.lt_succ_self
      obtain ⟨hv', hw3', -⟩ := value_sep_append x ihV hv hw3
      simp [elems, hv', hw3', ihE _ _ _ x h]
    | case5 f _ _ r3 hv r4 hw3 =>   -- `v ]`
      rintro ⟨⟩
      obtain ⟨hv', hw3', -⟩ := value_sep_append x (ih f f.lt_succ_self).1 hv hw3
      simp [elems, hv', hw3']
    | _ => nofun

/-- a member list cut short does not scan: by `stable` the scan of the whole would stop where it stopped -/
theorem members_cut {f d : Nat} {s x : Bytes} {ms : List (Bytes × Bytes)} (h : members f d (s ++ x) = some (ms, [])) (hx : x ≠ []) :
    members f d s = none := by
  cases hm : members f d s with
  | none => rfl
  | some p =>
    rw [(stable f).2.1 d s p.1 p.2 x hm] at h
    injection h with h; injection h with _ h
    exact absurd (List.append_eq_nil_iff.1 h).2 hx

end Ergo.Codec
