/-
  The line codec is a codec (`jsonCodec : CodecOn Wf`): for every event the commands can write (`Wf`) the line `json.Marshal` writes
  decodes to that event (`classify_encode`: the line is `{…}` by `encodeEvent_eq` and `encObj_eq`, which `trimSpaceB_braces` leaves
  alone; fields read back by `getStr_encFields`, `interp_wire`), has no byte below 0x20 (`clean_encodeEvent`), and has no proper
  non-empty prefix that is valid JSON, so a torn write is recognised (`prefix_bad`).
  Nothing is assumed about `encoding/json` on these lines other than that ErgoModel.Codec describes it (tie T2-fn `fn-codec`, byte for byte).
-/
import ErgoProofs.Lemmas.CodecTrim
import ErgoProofs.Lemmas.StorageSplit
import ErgoProofs.Lemmas.TimeThm
open Ergo Ergo.Storage
namespace Ergo.Codec

abbrev maxT : Nat := Time.maxT

/-- a stamp, if present, lies before year 10000, where `Time.parse_format` holds; an absent one is written "" and read back as absent -/
def TimeOk : Option Time → Prop
  | none => True
  | some t => t < maxT

/-- a state whose name reads back to it: every state but `.other` of one of the six known names -/
def StOk (s : St) : Prop := St.ofString s.toString = s

/-- enough for an event's line to decode to it (`classify_encode`); the commands write no other events (`runCmd_wf`) -/
def Wf : Event → Prop
  | .newItem _ _ _ _ st _ _ cat => StOk st ∧ TimeOk cat
  | .state _ st ts => StOk st ∧ TimeOk ts
  | .claim _ _ ts => TimeOk ts
  | .title _ _ ts => TimeOk ts
  | .body _ _ ts => TimeOk ts
  | .epic _ _ ts => TimeOk ts
  | .tombstone _ _ ts => TimeOk ts
  | .result _ _ _ _ _ _ ts => TimeOk ts
  | _ => True

def AllWf (l : List Event) : Prop := ∀ e ∈ l, Wf e

theorem allWf_nil : AllWf [] := fun _ h => nomatch h
theorem allWf_append {a b : List Event} (ha : AllWf a) (hb : AllWf b) : AllWf (a ++ b) := List.forall_mem_append.2 ⟨ha, hb⟩
theorem allWf_cons {e : Event} {l : List Event} (he : Wf e) (hl : AllWf l) : AllWf (e :: l) := List.forall_mem_cons.2 ⟨he, hl⟩
theorem allWf_single {e : Event} (he : Wf e) : AllWf [e] := allWf_cons he allWf_nil

theorem optTime_timeText (o : Option Time) (h : TimeOk o) : optTime (timeText o) = o := by
  cases o with
  | none => decide
  | some t => simp only [optTime, timeText, Time.parseS, Time.formatS, String.toList_ofList]; exact Time.parse_format t h

def fieldMembers (fs : List (String × String × Bool)) : List (String × Bytes) :=
  (fs.filter fun f => !(f.2.2 && f.2.1 = "")).map fun f => (f.1, encStr f.2.1)

theorem encFields_eq (fs : List (String × String × Bool)) : encFields fs = encObj (fieldMembers fs) := rfl

theorem mem_fieldMembers {fs : List (String × String × Bool)} {kv : String × Bytes} (h : kv ∈ fieldMembers fs) :
    ∃ f ∈ fs, kv = (f.1, encStr f.2.1) := by
  simp only [fieldMembers, List.mem_map, List.mem_filter] at h
  obtain ⟨f, ⟨hf, _⟩, rfl⟩ := h
  exact ⟨f, hf, rfl⟩

theorem val_fieldMembers (fs : List (String × String × Bool)) (d : Nat) : ∀ kv ∈ fieldMembers fs, Val 1 d kv.2 := by
  intro kv hkv
  obtain ⟨f, _, rfl⟩ := mem_fieldMembers hkv
  exact val_encStr _ _

theorem fieldMembers_length_le (fs : List (String × String × Bool)) : (fieldMembers fs).length ≤ fs.length := by
  simp only [fieldMembers, List.length_map]; exact List.length_filter_le _ _

theorem payloadOf_encFields (fs : List (String × String × Bool)) (hlen : fs.length ≤ 100) :
    payloadOf (some (encFields fs)) = some ((fieldMembers fs).map fun kv => (rawOf kv.1, kv.2)) := by
  have hl := fieldMembers_length_le fs
  simp only [payloadOf, encFields_eq, parseTop_encObj 1 _ (val_fieldMembers fs _) (by omega)]

theorem payloadOf_bad : payloadOf (some [34, 34]) = none := by decide

theorem strFold_skip_all {name cur : String} {kvs : List (String × Bytes)} (h : ∀ kv ∈ kvs, foldKey kv.1 ≠ foldKey name) :
    (kvs.map fun kv => (rawOf kv.1, kv.2)).foldl (strStep name) (some cur) = some cur := by
  induction kvs with
  | nil => rfl
  | cons kv r ih =>
    rw [List.map_cons, strFold_skip _ _ _ _ _ (h kv (by simp))]
    exact ih fun x hx => h x (by simp [hx])

theorem fieldMembers_append (a b : List (String × String × Bool)) : fieldMembers (a ++ b) = fieldMembers a ++ fieldMembers b := by
  simp [fieldMembers]

theorem fieldMembers_cons (f : String × String × Bool) (r : List (String × String × Bool)) :
    fieldMembers (f :: r) = if !(f.2.2 && f.2.1 = "") then (f.1, encStr f.2.1) :: fieldMembers r else fieldMembers r := by
  simp only [fieldMembers, List.filter_cons]
  split <;> rfl

/-- members before and after the field's own are skipped (no two names fold alike); its own sets it, or was left out (`omitempty`) exactly when it holds "" -/
theorem getStr_encFields (fs : List (String × String × Bool)) (hd : (fs.map (·.1)).Pairwise fun a b => foldKey a ≠ foldKey b)
    (f : String × String × Bool) (hf : f ∈ fs) :
    getStr ((fieldMembers fs).map fun kv => (rawOf kv.1, kv.2)) f.1 = some f.2.1 := by
  rw [List.pairwise_map] at hd
  obtain ⟨pre, post, rfl⟩ := List.append_of_mem hf
  obtain ⟨_, hpost, hpre⟩ := List.pairwise_append.1 hd
  have hpre' : ∀ kv ∈ fieldMembers pre, foldKey kv.1 ≠ foldKey f.1 := fun kv hkv => by
    obtain ⟨g, hg, rfl⟩ := mem_fieldMembers hkv; exact hpre g hg f (by simp)
  have hpost' : ∀ kv ∈ fieldMembers post, foldKey kv.1 ≠ foldKey f.1 := fun kv hkv => by
    obtain ⟨g, hg, rfl⟩ := mem_fieldMembers hkv; exact ((List.pairwise_cons.1 hpost).1 g hg).symm
  rw [getStr_eq, fieldMembers_append, List.map_append, List.foldl_append, strFold_skip_all hpre', fieldMembers_cons]
  split
  · rw [List.map_cons, strFold_str, if_pos rfl]
    exact strFold_skip_all hpost'
  · rename_i ho
    rw [show f.2.1 = "" by simp at ho; exact ho.2]
    exact strFold_skip_all hpost'

theorem getStrs_nil (ms : List (Bytes × Bytes)) : getStrs ms [] = some [] := rfl

theorem getStrs_cons (ms : List (Bytes × Bytes)) (n : String) (ns : List String) :
    getStrs ms (n :: ns) = (getStr ms n).bind fun v => (getStrs ms ns).map (v :: ·) := by
  rw [getStrs, getStrs, List.mapM_cons]
  cases getStr ms n with
  | none => rfl
  | some v => cases List.mapM (getStr ms) ns <;> rfl

theorem getStrs_encFields (fs : List (String × String × Bool)) (names : List String) (hn : names = fs.map (·.1))
    (hd : names.Pairwise fun a b => foldKey a ≠ foldKey b) :
    getStrs ((fieldMembers fs).map fun kv => (rawOf kv.1, kv.2)) names = some (fs.map (·.2.1)) := by
  subst hn
  rw [getStrs, List.mapM_map]
  exact mapM_some fun f hf => getStr_encFields fs hd f hf

/-- every key of the line format; no two fold to the same text (`foldKey_nodup`), so among them a match under Go's case folding is an
    exact match (`foldKey_eq`).  Decoding does not go through this list: each row of `interp_wire` evaluates its own names -/
def fieldNames : List String :=
  ["type", "ts", "data", "id", "uuid", "epic_id", "state", "title", "body", "created_at", "agent_id", "from_id", "to_id", "task_id",
   "summary", "path", "sha256_at_attach", "mtime_at_attach", "git_commit_at_attach"]

theorem foldKey_nodup : (fieldNames.map foldKey).Nodup := by decide +kernel

theorem foldKey_eq (a b : String) (ha : a ∈ fieldNames) (hb : b ∈ fieldNames) : (foldKey a = foldKey b) = (a = b) :=
  propext ⟨inj_of_nodup_map foldKey foldKey_nodup ha hb, congrArg foldKey⟩

theorem linkType_depends (dep : Bool) : decide (linkType dep = "depends") = dep := by cases dep <;> decide

theorem interp_wire (ets : String) (e : Event) (h : Wf e) : interp (wireOf ets e).1 (some (wireOf ets e).2) = e := by
  cases e
  case ignored => simp only [wireOf, interp, String.reduceEq, or_self, ↓reduceIte]
  case badData => simp only [wireOf, interp, String.reduceEq, or_self, ↓reduceIte, payloadOf_bad]
  case' newItem isEpic _ _ _ _ _ _ _ => cases isEpic
  -- each remaining row alike.  `split` takes the `match` on the parsed members apart (reducing it in place with `dsimp only` is slower
  -- to check); the names `interp` asks for are the row's own (`rfl`) and distinct under folding (evaluated); `h` undoes `St.ofString`, `optTime`
  all_goals
    simp only [Wf, StOk] at h
    simp only [wireOf, interp, String.reduceEq, Bool.false_eq_true, or_self, or_true, true_or, ↓reduceIte]
    rw [payloadOf_encFields _ (by simp)]
    split <;> rename_i heq <;> cases heq
    rw [getStrs_encFields]
    · simp only [List.map, linkType_depends, decide_true, decide_false, optTime_timeText, *]
    · rfl
    · decide +kernel

theorem val_encFields (fs : List (String × String × Bool)) (d : Nat) : Val (fs.length + 2) (d + 1) (encFields fs) := by
  have hl := fieldMembers_length_le fs
  exact (val_encObj d 1 (fieldMembers fs) (val_fieldMembers fs d)).mono (by omega)

theorem wire_cases {P : Bytes → Prop} (ets : String) (e : Event) (hf : ∀ fs, fs.length ≤ 7 → P (encFields fs))
    (hn : P [110, 117, 108, 108]) (hs : P [34, 34]) : P (wireOf ets e).2 := by
  cases e with
  | ignored => exact hn
  | badData => exact hs
  | _ => exact hf _ (by simp)

def envelope (ets : Event → String) (e : Event) : List (String × Bytes) :=
  [("type", encStr (wireOf (ets e) e).1), ("ts", encStr (ets e)), ("data", (wireOf (ets e) e).2)]

theorem encodeEvent_eq (ets : Event → String) (e : Event) : encodeEvent ets e = encObj (envelope ets e) := rfl

/-- the three lookups `classifyLine` makes, in the members of an `envelope` -/
theorem envelope_lookups (ty ts : String) (raw : Bytes) :
    getStr [(rawOf "type", encStr ty), (rawOf "ts", encStr ts), (rawOf "data", raw)] "type" = some ty ∧
    getStr [(rawOf "type", encStr ty), (rawOf "ts", encStr ts), (rawOf "data", raw)] "ts" = some ts ∧
    getRaw [(rawOf "type", encStr ty), (rawOf "ts", encStr ts), (rawOf "data", raw)] "data" = some raw := by
  refine ⟨?_, ?_, ?_⟩
  · rw [getStr_eq, strFold_str, strFold_str, strFold_skip _ _ _ _ _ (by decide), if_neg (by decide), if_pos rfl]; rfl
  · rw [getStr_eq, strFold_str, strFold_str, strFold_skip _ _ _ _ _ (by decide), if_pos rfl]; rfl
  · rw [getRaw, getRaw_cons, getRaw_cons, getRaw_cons, if_pos rfl]; rfl

example (ty ts : String) (raw : Bytes) :
    getStr [(rawOf "type", encStr ty), (rawOf "ts", encStr ts), (rawOf "data", raw)] "type" = some ty :=
  (envelope_lookups ty ts raw).1

theorem envelope_cases {P : Bytes → Prop} (ets : Event → String) (e : Event) (hs : ∀ s, P (encStr s)) (hw : P (wireOf (ets e) e).2) :
    ∀ kv ∈ envelope ets e, P kv.2 := by
  intro kv hkv
  simp only [envelope, List.mem_cons, List.not_mem_nil, or_false] at hkv
  rcases hkv with rfl | rfl | rfl
  · exact hs _
  · exact hs _
  · exact hw

theorem val_envelope (ets : Event → String) (e : Event) : ∀ kv ∈ envelope ets e, Val 20 (DEPTH - 1) kv.2 :=
  envelope_cases ets e (fun s => (val_encStr s _).mono (by omega)) <|
    wire_cases _ e (fun fs h => (val_encFields fs _).mono (by omega)) ((val_null _).mono (by omega)) ((val_encStr "" _).mono (by omega))

theorem classify_encode (ets : Event → String) (e : Event) (h : Wf e) : classifyLine (encodeEvent ets e) = .ev e := by
  have htrim : trimSpaceB (encodeEvent ets e) = encodeEvent ets e := by
    rw [encodeEvent_eq, encObj_eq]; exact trimSpaceB_braces _
  have htop := parseTop_encObj 20 (envelope ets e) (val_envelope ets e) (by simp [envelope])
  obtain ⟨h1, h2, h3⟩ := envelope_lookups (wireOf (ets e) e).1 (ets e) (wireOf (ets e) e).2
  simp only [classifyLine, htrim]
  rw [if_neg (by rw [encodeEvent_eq, encObj_eq]; simp), encodeEvent_eq, htop]
  -- `split` for the same reason as in `interp_wire`
  split <;> rename_i heq <;> cases heq
  simp only [envelope, List.map, h1, h2, h3, interp_wire _ _ h]

abbrev Clean (l : Bytes) : Prop := ∀ b ∈ l, (32 : UInt8) ≤ b

theorem clean_utf8Enc (cs : List Char) (h : ∀ c ∈ cs, 32 ≤ c.toNat) : Clean (utf8Enc cs) := by
  intro b hb
  obtain ⟨c, hc, hb⟩ := List.mem_flatMap.1 hb
  rcases utf8EncodeChar_cases c with ⟨b', he, hn, _⟩ | hge
  · rw [he, List.mem_singleton] at hb
    rw [hb, UInt8.le_iff_toNat_le, hn]; exact h c hc
  · exact UInt8.le_trans (by decide) (hge b hb)

theorem clean_append {a b : Bytes} (ha : Clean a) (hb : Clean b) : Clean (a ++ b) := List.forall_mem_append.2 ⟨ha, hb⟩
theorem clean_cons {a : UInt8} {b : Bytes} (ha : (32 : UInt8) ≤ a) (hb : Clean b) : Clean (a :: b) := List.forall_mem_cons.2 ⟨ha, hb⟩
theorem clean_nil : Clean [] := fun _ h => nomatch h

theorem clean_encStr (s : String) : Clean (encStr s) := by
  rw [encStr_eq]
  refine clean_cons (by decide) (clean_append (clean_utf8Enc _ fun c hc => ?_) (clean_cons (by decide) clean_nil))
  obtain ⟨x, _, h⟩ := List.mem_flatMap.1 hc
  exact Json.encodeChar_ge true x c h

theorem clean_encMembers (kvs : List (String × Bytes)) (h : ∀ kv ∈ kvs, Clean kv.2) : Clean (encMembers kvs) := by
  induction kvs with
  | nil => exact clean_nil
  | cons a r ih =>
    have ha : Clean (encStr a.1 ++ 58 :: a.2) := clean_append (clean_encStr _) (clean_cons (by decide) (h a (by simp)))
    cases r with
    | nil => rw [encMembers_single]; exact ha
    | cons b r' =>
      rw [encMembers_cons_cons]
      exact clean_append ha (clean_cons (by decide) (ih fun kv hk => h kv (by simp [hk])))

theorem clean_encObj (kvs : List (String × Bytes)) (h : ∀ kv ∈ kvs, Clean kv.2) : Clean (encObj kvs) := by
  rw [encObj_eq]; exact clean_cons (by decide) (clean_append (clean_encMembers kvs h) (clean_cons (by decide) clean_nil))

theorem clean_encFields (fs : List (String × String × Bool)) : Clean (encFields fs) := by
  rw [encFields_eq]; apply clean_encObj
  intro kv hkv
  obtain ⟨f, _, rfl⟩ := mem_fieldMembers hkv
  exact clean_encStr _

theorem clean_encodeEvent (ets : Event → String) (e : Event) : Clean (encodeEvent ets e) :=
  clean_encObj _ (envelope_cases ets e clean_encStr (wire_cases _ e (fun fs _ => clean_encFields fs) (by decide) (by decide)))

theorem prefix_bad (ets : Event → String) (e : Event) (p : Bytes) (hp : p <+: encodeEvent ets e) (hne : p ≠ encodeEvent ets e) (hnil : p ≠ []) :
    classifyLine p = .bad := by
  obtain ⟨x, hx⟩ := hp
  have hxne : x ≠ [] := by intro h0; apply hne; rw [← hx, h0, List.append_nil]
  -- the whole line is `{"type"…}`, and its members scan to the end
  obtain ⟨t0, ht0⟩ := encMembers_head (envelope ets e) (by simp [envelope])
  have hmem := members_encoded _ 20 (envelope ets e) (by simp [envelope]) (val_envelope ets e) FUEL (FUEL_ge _ (by simp [envelope])) []
  rw [encodeEvent_eq, encObj_eq, ht0] at hx
  rw [ht0] at hmem
  -- `p` starts with `{`, and so does what `TrimSpace` leaves of it: `{` and `t`, where the line is `{`, `t`, `y ++ x`
  obtain ⟨q, rfl⟩ : ∃ q, p = 123 :: q := by
    cases p with
    | nil => exact absurd rfl hnil
    | cons b q => injection hx with h1 _; exact ⟨q, by rw [h1]⟩
  obtain ⟨t, htrim, ⟨y, hy⟩⟩ := trimSpaceB_lbrace q
  have htail : t ++ (y ++ x) = 34 :: t0 ++ [125] := by
    rw [← hy] at hx; simpa using hx
  -- the scan of `t` meets the same first `"` and then a member list cut short
  have : parseTop (123 :: t) = .err := by
    simp only [parseTop]
    rw [skipWs_cons_of 123 _ (by decide)]
    simp only [if_true]
    cases hw : skipWs t with
    | nil => rfl
    | cons c r' =>
      have hw' := skipWs_append_cons (y ++ x) hw
      rw [htail, List.cons_append, skipWs_cons_of 34 _ (by decide)] at hw'
      obtain ⟨hc, hr⟩ := List.cons.inj hw'
      rw [List.cons_append, hr, ← List.cons_append] at hmem
      simp only [← hc, members_cut hmem (by simp [hxne]), (by decide : (34 : UInt8) ≠ 125), if_false]
  simp only [classifyLine, htrim, this]
  rw [if_neg (by simp)]

theorem classifyLine_nil : classifyLine [] = .blank := rfl

theorem jsonCodec (ets : Event → String) : CodecOn Wf classifyLine (encodeEvent ets) where
  clean e _ := by
    have hc := clean_encodeEvent ets e
    refine ⟨fun h => absurd (hc _ h) (by decide), fun h => absurd (hc _ h) (by decide), ?_⟩
    rw [encodeEvent_eq, encObj_eq]; simp
  parses e h := classify_encode ets e h
  prefix_bad e p _ hp hne hnil := prefix_bad ets e p hp hne hnil
  empty_blank := classifyLine_nil

theorem short_of_wf (ets : Event → String) (limit : Nat) (evs : List Event) (hw : AllWf evs)
    (hl : ∀ e ∈ evs, (encodeEvent ets e).length < limit) : Short Wf (encodeEvent ets) limit evs :=
  fun e he => ⟨hw e he, hl e he⟩

end Ergo.Codec
