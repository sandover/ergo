/-
  The call sequences of storage.go on the store's two names (ErgoModel.Files) give what ErgoModel.Storage states, from every directory
  state, and leave the log alone until the one call that publishes (`logs`).  `init`'s create between two calls of a writer changes nothing (`Same`).
-/
import ErgoModel.Files
namespace Ergo.Files
open Ergo.Storage

theorem splice_end (f data : Bytes) : splice f f.length data = f ++ data := by
  unfold splice
  simp

theorem run_append (s : St) (a b : List Op) : run s (a ++ b) = run (run s a) b := by
  unfold run; rw [List.foldl_append]

theorem writeTmp_chunks (s : St) (acc : Bytes) (cs : List Bytes) (ht : s.dir.tmp = some acc) (ho : s.fds.tmpOff = acc.length) :
    (run s (cs.map .writeTmp)).dir.tmp = some (acc ++ cs.flatten) := by
  induction cs generalizing s acc with
  | nil => simpa [run] using ht
  | cons c cs ih =>
    show (run (step s (.writeTmp c)) (cs.map .writeTmp)).dir.tmp = _
    rw [ih (step s (.writeTmp c)) (acc ++ c) (by simp only [step, ht, Option.getD_some, ho, splice_end])
      (by simp only [step, ho, List.length_append]), List.flatten_cons, List.append_assoc]

theorem step_rename {s : St} {t : Bytes} (h : s.dir.tmp = some t) : (step s .renameTmp).dir = { log := some t, tmp := none } := by
  simp only [step, h]

/-- from any `s`: whatever a killed rewrite left in the temporary file does not show -/
theorem rewrite_complete (s : St) (cs : List Bytes) :
    (run s (rewrite true cs)).dir = { log := some cs.flatten, tmp := none } := by
  unfold rewrite
  rw [run_append, run_append]
  exact step_rename (writeTmp_chunks (run s [.openTmp true]) [] cs rfl rfl)

/-- the calls that touch the temporary file only -/
def quiet : Op → Bool
  | .openTmp _ | .writeTmp _ => true
  | _ => false

theorem quiet_keeps_log (s : St) (ops : List Op) (h : ∀ o ∈ ops, quiet o = true) : (run s ops).dir.log = s.dir.log := by
  induction ops generalizing s with
  | nil => rfl
  | cons o ops ih =>
    refine (ih (step s o) fun o' ho' => h o' (List.mem_cons_of_mem _ ho')).trans ?_
    have ho := h o List.mem_cons_self
    cases o with
    | openTmp _ | writeTmp _ => rfl
    | _ => cases ho

/-- killed before the rename, its last call -/
theorem rewrite_killed (s : St) (trunc : Bool) (cs : List Bytes) (k : Nat) (hk : k < (rewrite trunc cs).length) :
    (run s ((rewrite trunc cs).take k)).dir.log = s.dir.log := by
  have hk' : k ≤ ([Op.openTmp trunc] ++ cs.map Op.writeTmp).length := by
    simpa [rewrite, Nat.lt_succ_iff] using hk
  rw [rewrite, List.take_append_of_le_length hk']
  refine quiet_keeps_log _ _ fun o ho => ?_
  rcases List.mem_append.1 (List.mem_of_mem_take ho) with h | h
  · cases List.mem_singleton.1 h; rfl
  · obtain ⟨c, _, rfl⟩ := List.mem_map.1 h; rfl

theorem rewrite_without_trunc_keeps_stale_bytes :
    (run { dir := { log := some [1], tmp := some [7, 7, 7, 10] } } (rewrite false [[9, 10]])).dir.log = some [9, 10, 7, 10] := by
  decide

theorem appendClean_result (s : St) (batch : Bytes) :
    (run s (appendClean true batch)).dir.log = some (s.dir.log.getD [] ++ batch) := by
  simp [appendClean, run, step]

/-- the completing `\n` lands at the end although the descriptor's offset is 0: `O_APPEND` -/
theorem appendUnterminated_result (s : St) (batch : Bytes) :
    (run s (appendUnterminated true batch)).dir.log = some (s.dir.log.getD [] ++ [NL] ++ batch) := by
  simp [appendUnterminated, run, step]

theorem appendUnterminated_without_append_clobbers :
    (run { dir := { log := some [123, 125], tmp := none } } (appendUnterminated false [49, 10])).dir.log = some [10, 125, 49, 10] := by
  decide

theorem appendAfterTear_result (s : St) (kept : List Bytes) (batch : Bytes) :
    (run s (appendAfterTear true true kept batch)).dir.log = some (kept.flatten ++ batch) := by
  unfold appendAfterTear
  rw [run_append, run_append]
  have h := rewrite_complete (run s [.openLog true]) kept
  generalize run (run s [.openLog true]) (rewrite true kept) = s2 at h
  simp [run, step, h]

/-- the three programs, each with what `repairTail` makes of `f` in that case; the case's condition (`repairTail`'s tests) is not kept -/
theorem appendProgram_cases (classify : Bytes → LineClass) (f batch : Bytes) :
    (appendProgram classify f batch = appendClean true batch ∧ repairTail classify f = f) ∨
    (appendProgram classify f batch = appendUnterminated true batch ∧ repairTail classify f = f ++ [NL]) ∨
    (appendProgram classify f batch = appendAfterTear true true [uptoLastNL f] batch ∧ repairTail classify f = uptoLastNL f) := by
  unfold appendProgram repairTail
  split
  · exact .inl ⟨rfl, rfl⟩
  · cases classify (dropCR (lastFragment f)) with
    | ev e => exact .inr (.inl ⟨rfl, rfl⟩)
    | blank => exact .inr (.inr ⟨rfl, rfl⟩)
    | bad => exact .inr (.inr ⟨rfl, rfl⟩)

/-- `appendEvents`, call by call, leaves what `Storage.appendFile` says, whatever the temporary name holds -/
theorem appendProgram_result (classify : Bytes → LineClass) (encode : Event → Bytes) (f : Bytes) (t : Option Bytes) (fds : Fds) (evs : List Event) :
    (run { dir := { log := some f, tmp := t }, fds } (appendProgram classify f (linesOf encode evs))).dir.log
      = some (appendFile classify encode f evs) := by
  unfold appendFile
  rcases appendProgram_cases classify f (linesOf encode evs) with ⟨hp, hr⟩ | ⟨hp, hr⟩ | ⟨hp, hr⟩
  · rw [hp, hr, appendClean_result]; rfl
  · rw [hp, hr, appendUnterminated_result]; rfl
  · rw [hp, hr, appendAfterTear_result]; simp

/-- what the log's name holds before the first call of `ops` and after each of them -/
def logs (s : St) : List Op → List (Option Bytes)
  | [] => [s.dir.log]
  | o :: ops => s.dir.log :: logs (step s o) ops

theorem killed_mem_logs (s : St) (ops : List Op) (k : Nat) : (run s (ops.take k)).dir.log ∈ logs s ops := by
  induction ops generalizing s k with
  | nil => rw [List.take_nil]; exact List.mem_cons_self
  | cons o ops ih =>
    cases k with
    | zero => exact List.mem_cons_self
    | succ k => exact List.mem_cons_of_mem _ (ih (step s o) k)

section
variable {s : St} {f : Bytes} (h : s.dir.log = some f) (b : Bytes)
include h

theorem appendClean_logs : logs s (appendClean true b) = [some f, some f, some f, some (f ++ b)] := by
  simp [logs, appendClean, step, h]

theorem appendUnterminated_logs :
    logs s (appendUnterminated true b) = [some f, some f, some (f ++ [NL]), some (f ++ [NL]), some (f ++ [NL] ++ b)] := by
  simp [logs, appendUnterminated, step, h]

theorem appendAfterTear_logs (kept : Bytes) :
    logs s (appendAfterTear true true [kept] b) = [some f, some f, some f, some f, some kept, some kept, some kept, some (kept ++ b)] := by
  simp [logs, appendAfterTear, rewrite, step, splice, h]
end

theorem appendProgram_killed (classify : Bytes → LineClass) (encode : Event → Bytes) (f : Bytes) (t : Option Bytes) (fds : Fds) (evs : List Event) (k : Nat) :
    let g := (run { dir := { log := some f, tmp := t }, fds } ((appendProgram classify f (linesOf encode evs)).take k)).dir.log
    g = some f ∨ g = some (repairTail classify f) ∨ g = some (appendFile classify encode f evs) := by
  intro g
  have hg : g ∈ logs _ (appendProgram classify f (linesOf encode evs)) := killed_mem_logs _ _ k
  clear_value g
  unfold appendFile
  rcases appendProgram_cases classify f (linesOf encode evs) with ⟨hp, hr⟩ | ⟨hp, hr⟩ | ⟨hp, hr⟩
  · rw [hp, appendClean_logs rfl] at hg; rw [hr]; simpa using hg
  · rw [hp, appendUnterminated_logs rfl] at hg; rw [hr]; simpa using hg
  · rw [hp, appendAfterTear_logs rfl] at hg; rw [hr]; simpa using hg

/-- a missing log and an empty one are the same to every call -/
def Same (a b : St) : Prop := a.dir.log.getD [] = b.dir.log.getD [] ∧ a.dir.tmp = b.dir.tmp ∧ a.fds = b.fds

theorem same_step {a b : St} (h : Same a b) (o : Op) : Same (step a o) (step b o) := by
  obtain ⟨hl, ht, hf⟩ := h
  cases o with
  | renameTmp =>
    simp only [step, ht]
    split
    · exact ⟨rfl, rfl, hf⟩
    · exact ⟨hl, ht, hf⟩
  | _ => simp [Same, step, hl, ht, hf]    -- these read the log through `getD []` only

theorem same_run {a b : St} (h : Same a b) (ops : List Op) : Same (run a ops) (run b ops) := by
  induction ops generalizing a b with
  | nil => exact h
  | cons o ops ih => exact ih (same_step h o)

theorem ensure_same (s : St) : Same (step s (.ensureLog false)) s := ⟨by simp [step], rfl, rfl⟩

/-- `init`'s create (no `O_TRUNC`) between any two calls of a writer -/
theorem ensure_between_calls (s : St) (ops : List Op) (i : Nat) :
    (run s (ops.take i ++ [.ensureLog false] ++ ops.drop i)).dir.log.getD [] = (run s ops).dir.log.getD [] := by
  rw [run_append, run_append]
  have h1 : Same (run (run s (ops.take i)) [.ensureLog false]) (run s (ops.take i)) := ensure_same _
  have h2 := same_run h1 (ops.drop i)
  rw [h2.1, ← run_append, List.take_append_drop]

/-- the defect repaired by `fix: init must not truncate`: with `O_TRUNC` (`os.WriteFile`) an `init` that looked before a writer
    filled the log and acts after it empties it -/
theorem ensure_with_trunc_loses_the_batch :
    (run { dir := { log := none, tmp := none } } (appendClean true [123, 125, 10] ++ [.ensureLog true])).dir.log = some [] := by
  decide

end Ergo.Files
