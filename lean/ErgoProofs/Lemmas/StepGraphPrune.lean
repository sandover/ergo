/-
  `Sec.prune`: replaying its tombstones is `foldl applyTombstone` (what that keeps: `foldl_applyTombstone_mem`, ReplayInv);
  removing the prune targets keeps `AllInv` (`allInv_prune`, through `prune_keeps_referenced_epics`); `runSec_prune_spec` is the
  section's report and the graph afterwards.
-/
import ErgoProofs.Lemmas.Sections
import ErgoProofs.Inv
import ErgoProofs.Lemmas.ReplayInv
import ErgoProofs.Lemmas.Prune
import ErgoProofs.Lemmas.Reach
namespace Ergo

theorem foldlM_tombstones (g : Graph) (ids : List Id) (agent : Id) (now : Time) :
    (ids.map fun i => Event.tombstone i agent (some now)).foldlM applyEvent g = .ok (ids.foldl applyTombstone g) := by
  induction ids generalizing g with
  | nil => rfl
  | cons i is ih =>
    simp only [List.map_cons, List.foldlM_cons, applyEvent, bind, Except.bind, List.foldl_cons]
    exact ih _

/-- an edge that stays has both ends left, and an item that stays keeps its epic (`prune_keeps_referenced_epics`) -/
theorem allInv_prune {g : Graph} (hinv : AllInv g) : AllInv ((pruneTargets g).foldl applyTombstone g) := by
  obtain ⟨hT, hD⟩ := foldl_applyTombstone_mem g (pruneTargets g)
  refine .of_items (List.foldlRecOn (motive := WF) _ _ hinv.ok.wf fun _ ha _ _ => WF_applyTombstone ha)
    ⟨acyclic_sub hinv.i07.acyclic fun e he => ((hD e).1 he).1, fun e he => ?_⟩ fun t ht => ?_
  · obtain ⟨h1, h2, h3⟩ := (hD e).1 he
    obtain ⟨a, ha, b, hb, ea, eb, hk⟩ := hinv.i07.live e h1
    exact ⟨a, (hT a).2 ⟨ha, ea ▸ h2⟩, b, (hT b).2 ⟨hb, eb ▸ h3⟩, ea, eb, hk⟩
  · obtain ⟨htg, htn⟩ := (hT t).1 ht
    have i := hinv.item htg
    refine { i with epicR := fun hE => (i.epicR hE).elim .inl fun ⟨e, he, hid, hep⟩ => ?_ }
    by_cases h0 : t.epicId = ""
    · exact .inl h0
    · exact .inr ⟨e, (hT e).2 ⟨he, prune_keeps_referenced_epics g hinv.ok.wf t e htg he hE hep hid.symm (hid ▸ h0) htn⟩, hid, hep⟩

theorem runSec_prune_spec {log : List Event} {g : Graph} {env : Env} {apply : Bool} {w : Write} {out : SecOut}
    (hr : replayRaw log = .ok g) (hinv : AllInv g) (hrun : runSec log env (.prune apply) = .ok (w, out)) :
    out.pruned = pruneTargets g ∧
      let g' := if apply then (pruneTargets g).foldl applyTombstone g else g
      replayRaw (applyWrite log w) = .ok g' ∧ AllInv g' := by
  obtain ⟨g0, hrep, rfl, hout⟩ := runSec_ok _ hrun
  cases (replay_eq_raw hr hinv.ok).symm.trans hrep
  refine ⟨hout, ?_⟩
  cases apply with
  | false => exact ⟨replayRaw_applyAppend hr rfl, hinv⟩
  | true => exact ⟨replayRaw_applyAppend hr (foldlM_tombstones g _ env.agent env.now), allInv_prune hinv⟩

theorem secStep_prune (apply : Bool) : SecStepOK (.prune apply) :=
  fun _ _ _ _ _ hr hinv _ hrun => let ⟨_, h1, h2⟩ := runSec_prune_spec hr hinv hrun; ⟨_, h1, h2⟩

end Ergo
