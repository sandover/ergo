/-
  C05, the graph: for every `WF g`, replaying `compactEvents g` builds exactly `compacted g`: the items sorted by id, each rebuilt from
  its block, and the sorted edges (`replayRaw_compact`).  A lookup there finds the rebuilt item, so what `rebuildX` keeps of an item
  compaction keeps of the graph (`compacted_find_map`): `Task.core` always, the observables under `GraphOK'` (`TaskOK'`: see there), which
  `compacted g` satisfies again and under which compacting twice writes the same log.  A `GraphOK` graph whose epics have
  `lastEpic = 0` (every CLI-reachable one) is `GraphOK'`; `GraphOK` alone does not give the round trip (`graphOK_not_sufficient`).
-/
import ErgoProofs.Lemmas.CompactItem
import ErgoProofs.Lemmas.ReplayInv
namespace Ergo

theorem foldlM_compactTask (g0 : Graph) (t : Task) (htb : ∀ i, g0.tombed i = false) (hfresh : g0.has t.id = false) :
    (compactTask t).foldlM applyEvent g0 = .ok { g0 with tasks := g0.tasks ++ [rebuildX t] } := by
  rw [← rebuild_eq, compactTask_eq, foldlM_cons_ok _ (applyEvent_newItem _ _ _ _ _ _ _ _ _ (htb _) hfresh), newTask_created]
  exact Eq.trans (foldlM_updates _ t.id _ (htb _) (updEvents_isUpdate t)) (congrArg _ (Graph.update_snoc g0 (created t) _ hfresh))

theorem foldlM_compactTasks (l : List Task) (g0 : Graph) (htb : ∀ i, g0.tombed i = false) (hnd : (g0.tasks.map (·.id) ++ l.map (·.id)).Nodup) :
    (l.map compactTask).flatten.foldlM applyEvent g0 = .ok { g0 with tasks := g0.tasks ++ l.map rebuildX } := by
  induction l generalizing g0 with
  | nil => simp [pure, Except.pure]
  | cons t l ih =>
    have hfresh : g0.has t.id = false := by
      rw [Graph.has_false_iff]
      exact fun k hk heq => (List.nodup_append.1 hnd).2.2 _ (List.mem_map_of_mem hk) _ (List.mem_map_of_mem List.mem_cons_self) heq
    rw [List.map_cons, List.flatten_cons, foldlM_append_ok _ (foldlM_compactTask g0 t htb hfresh)]
    refine Eq.trans (ih _ htb ?_) (by simp)
    simpa [rebuildX] using hnd

theorem foldlM_links_append (l : List (Id × Id)) (g : Graph) (htb : ∀ i, g.tombed i = false) (hnd : (g.deps ++ l).Nodup) :
    (l.map fun e => Event.link e.1 e.2 true).foldlM applyEvent g = .ok { g with deps := g.deps ++ l } := by
  induction l generalizing g with
  | nil => simp [pure, Except.pure]
  | cons e l ih =>
    have hnew : e ∉ g.deps := fun he => (List.nodup_append.1 hnd).2.2 _ he _ List.mem_cons_self rfl
    rw [List.map_cons, foldlM_cons_ok _ (applyEvent_link_ok g e.1 e.2 (htb _) (htb _)), if_neg (by simpa using hnew)]
    refine Eq.trans (ih _ htb ?_) (by simp)
    simpa using hnd

def compacted (g : Graph) : Graph :=
  ⟨(g.tasks.mergeSort taskIdLe).map rebuildX, g.deps.mergeSort edgeLe, []⟩

theorem replayRaw_compact (g : Graph) (h : WF g) : replayRaw (compactEvents g) = .ok (compacted g) := by
  unfold replayRaw compactEvents
  rw [foldlM_append_ok _ (foldlM_compactTasks _ Graph.empty (fun _ => rfl) (((List.mergeSort_perm g.tasks taskIdLe).map _).nodup_iff.mpr h.nodup)),
    foldlM_links_append _ _ (fun _ => rfl) ((List.mergeSort_perm g.deps edgeLe).nodup_iff.mpr h.deps_nodup)]
  simp [compacted, Graph.empty]

theorem forall_mem_compacted {g : Graph} {P : Task → Prop} : (∀ t' ∈ (compacted g).tasks, P t') ↔ ∀ t ∈ g.tasks, P (rebuildX t) := by
  simp only [compacted, List.forall_mem_map, List.mem_mergeSort]

/-- sorting keeps lookups (unique ids), `rebuildX` keeps ids -/
theorem compacted_find (g : Graph) (h : WF g) (id : Id) : (compacted g).find? id = (g.find? id).map rebuildX :=
  (Graph.map_find? ⟨g.tasks.mergeSort taskIdLe, _, _⟩ rebuildX (fun _ => rfl) id).trans
    (congrArg _ (find?_key_perm h.nodup (List.mergeSort_perm g.tasks taskIdLe).symm id).symm)

theorem compacted_find_map {α : Type} (F : Task → α) (g : Graph) (h : WF g) (hF : ∀ t ∈ g.tasks, F (rebuildX t) = F t) (id : Id) :
    ((compacted g).find? id).map F = (g.find? id).map F := by
  rw [compacted_find g h]
  cases hf : g.find? id with
  | none => rfl
  | some t => exact congrArg some (hF t (Graph.mem_of_find? hf).1)

structure GraphOK' (g : Graph) : Prop where
  wf : WF g
  tasks : ∀ t ∈ g.tasks, TaskOK' t

theorem GraphOK'.toGraphOK {g : Graph} (h : GraphOK' g) : GraphOK g := ⟨h.wf, fun t ht => (h.tasks t ht).toTaskOK⟩

theorem GraphOK'.of_lastEpic_zero {g : Graph} (h : GraphOK g) (h0 : ∀ t ∈ g.tasks, t.isEpic = true → t.lastEpic = 0) :
    GraphOK' g := ⟨h.wf, fun t ht => TaskOK'.of_lastEpic_zero (h.tasks t ht) (h0 t ht)⟩

theorem obsEq_compacted (g : Graph) (h : GraphOK' g) : ObsEq (compacted g) g :=
  ⟨compacted_find_map obsTask g h.wf fun t ht => obs_rebuildX t (h.tasks t ht), fun _ => List.mem_mergeSort⟩

theorem graphOK_compacted (g : Graph) (h : GraphOK' g) : GraphOK' (compacted g) :=
  ⟨replayRaw_WF (replayRaw_compact g h.wf), forall_mem_compacted.2 fun t ht => taskOK_rebuildX t (h.tasks t ht)⟩

theorem replay_compact (g : Graph) (h : GraphOK' g) : replay (compactEvents g) = .ok (compacted g) :=
  replay_eq_raw (replayRaw_compact g h.wf) (graphOK_compacted g h).toGraphOK

theorem compactEvents_compacted (g : Graph) (h : GraphOK' g) : compactEvents (compacted g) = compactEvents g := by
  have h1 : (compacted g).tasks.mergeSort taskIdLe = (compacted g).tasks :=
    List.mergeSort_of_pairwise (List.pairwise_map.2 (List.pairwise_mergeSort taskIdLe_trans taskIdLe_total g.tasks))
  have h2 : (compacted g).deps.mergeSort edgeLe = (compacted g).deps :=
    List.mergeSort_of_pairwise (List.pairwise_mergeSort edgeLe_trans edgeLe_total g.deps)
  have h3 : (compacted g).tasks.map compactTask = (g.tasks.mergeSort taskIdLe).map compactTask :=
    List.map_map.trans (List.map_congr_left fun t ht => compactTask_rebuildX t (h.tasks t (List.mem_mergeSort.1 ht)))
  rw [compactEvents, h1, h2, h3]
  rfl

theorem compact_roundtrip (g : Graph) (h : GraphOK' g) :
    ∃ g', replayRaw (compactEvents g) = .ok g' ∧ ObsEq g' g ∧ g'.tombs = [] ∧ GraphOK' g' :=
  ⟨compacted g, replayRaw_compact g h.wf, obsEq_compacted g h, rfl, graphOK_compacted g h⟩

theorem compact_replay (g : Graph) (h : GraphOK' g) :
    ∃ g', replay (compactEvents g) = .ok g' ∧ ObsEq g' g ∧ g'.tombs = [] ∧ GraphOK' g' :=
  ⟨compacted g, replay_compact g h, obsEq_compacted g h, rfl, graphOK_compacted g h⟩

theorem compacted_lastEpic (g : Graph) : ∀ t ∈ (compacted g).tasks, t.isEpic = true → t.lastEpic = 0 :=
  forall_mem_compacted.2 fun t _ => rebuildX_lastEpic_of_isEpic (t := t)

/-- an epic whose only late stamp is `lastEpic`: it satisfies `TaskOK` and comes back with `updatedAt = 1` -/
def cexT : Task :=
  { id := "a", uuid := "u", epicId := "", isEpic := true, st := .todo, title := "x", body := "", claimedBy := "",
    createdAt := 1, updatedAt := 5, results := [], cTitle := "x", cBody := "", cSt := .todo, cEpic := "",
    lastState := 0, lastClaim := 0, lastTitle := 0, lastBody := 0, lastEpic := 5 }
def cexG : Graph := ⟨[cexT], [], []⟩

theorem graphOK_cexG : GraphOK cexG := by
  refine ⟨by constructor <;> simp [cexG], fun t ht => ?_⟩
  obtain rfl := List.mem_singleton.1 ht
  constructor <;> decide

theorem graphOK_not_sufficient :
    ∃ g, GraphOK g ∧ ∀ g', replayRaw (compactEvents g) = .ok g' → ¬ ObsEq g' g := by
  refine ⟨cexG, graphOK_cexG, fun g' hr ho => ?_⟩
  rw [replayRaw_compact cexG graphOK_cexG.wf] at hr
  cases hr
  have h1 := ho.1 "a"
  rw [compacted_find cexG graphOK_cexG.wf] at h1
  revert h1
  decide

end Ergo
